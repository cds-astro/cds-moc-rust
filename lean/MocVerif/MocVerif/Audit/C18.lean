-- GENERATED by /verif/check: axiom audit of every theorem of Props/C18.lean
import MocVerif.Props.C18

#print axioms Moc.C18.two52_pos
#print axioms Moc.C18.freqHash64_eq
#print axioms Moc.C18.freq_strict_mono
#print axioms Moc.C18.freq_in_domain
#print axioms Moc.C18.freq_rejects
#print axioms Moc.C18.hash2freq_eq
#print axioms Moc.C18.freq_roundtrip
#print axioms Moc.C18.freq_mono_narrow
#print axioms Moc.C18.fmoc_contains_exactly
#print axioms Moc.C18.tmoc_contains_exactly
#print axioms Moc.C18.tmoc_ranges_core
#print axioms Moc.C18.tmoc_ranges_contains_exactly
#print axioms Moc.C18.fmoc_ranges_core
#print axioms Moc.C18.fmoc_ranges_contains_exactly
#print axioms Moc.C18.widen_same_interval
#print axioms Moc.C18.hz_range_encloses
