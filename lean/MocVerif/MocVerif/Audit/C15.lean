-- GENERATED by /verif/check: axiom audit of every theorem of Props/C15.lean
import MocVerif.Props.C15

#print axioms Moc.C15.query_predicates
#print axioms Moc.C15.degrade_exact_intersects
#print axioms Moc.C15.degrade_exact_included
#print axioms Moc.C15.degraded_region_aligned
#print axioms Moc.C15.original_floor_counterexample
#print axioms Moc.C15.query_is_selection
#print axioms Moc.C15.queryPos_sem
#print axioms Moc.C15.unionAt_is_builder
#print axioms Moc.C15.unionAt_sem
#print axioms Moc.C15.union_query_same_selection
