-- GENERATED by /verif/check: axiom audit of every theorem of Props/C06.lean
import MocVerif.Props.C06

#print axioms Moc.C06.fixedDepth_build
#print axioms Moc.C06.build_perm
#print axioms Moc.C06.build_dedup
#print axioms Moc.C06.build_cap_irrelevant
#print axioms Moc.C06.build_sem
#print axioms Moc.C06.append_sem
#print axioms Moc.C06.append_eq_union
#print axioms Moc.C06.rangeBuilder_build
#print axioms Moc.C06.rangeBuilder_sem_all
#print axioms Moc.C06.rangeBuilder_sem
#print axioms Moc.C06.rangeBuilder_perm
#print axioms Moc.C06.fromCells_sem
#print axioms Moc.C06.kwayOr_eq_fold
#print axioms Moc.C06.kwayAnd_eq_fold
#print axioms Moc.C06.kwayXor_eq_fold
