-- GENERATED by /verif/check: axiom audit of every theorem of Props/C04.lean
import MocVerif.Props.C04

#print axioms Moc.C04.hintOkB_iff
#print axioms Moc.C04.and_hints
#print axioms Moc.C04.or_hints
#print axioms Moc.C04.xor_hints
#print axioms Moc.C04.minus_hints
#print axioms Moc.C04.not_hints
#print axioms Moc.C04.degrade_hints
#print axioms Moc.C04.check_hints
#print axioms Moc.C04.lazy_eq_eager
#print axioms Moc.C04.or_last_exact
#print axioms Moc.C04.xor_last_exact
#print axioms Moc.C04.lazy_last_exact
#print axioms Moc.C04.check_convert_last_exact
#print axioms Moc.C04.lastExactB_iff
#print axioms Moc.C04.overlapped_by_hint_sound
#print axioms Moc.C04.exact_hint_is_length
