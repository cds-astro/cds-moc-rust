/-
  C08 — streaming space-time MOC union is the union of the (time × space) point sets.
  The 1 400-line Rust state machine is NOT transliterated: the theorems fix the specification (point set of the
  union, validity predicate); the check compares the three real forms of the operator, in both operand orders, with
  it, point by point on a grid of representative instants and positions (including shared boundaries), and judges
  every output with `validSTB`.  Proved of transliterated code: `st_union_reference`.
-/
import MocVerif.Lemmas.Query
import MocVerif.Lemmas.ST
import MocVerif.Lemmas.Consistent2D

namespace Moc.C08

theorem union_spec (t s : Nat) (a b : STMoc) : memST t s (stUnionSpec a b) ↔ memST t s a ∨ memST t s b :=
  memST_append t s a b

/-- The Boolean the correspondence check computes at a grid point is the union of the point sets. -/
theorem point_check_is_union (a b : STMoc) (t s : Nat) :
    stPointOp 14 a b t s = true ↔ memST t s a ∨ memST t s b :=
  stPointOp_iff a b t s (by decide)

theorem union_comm (t s : Nat) (a b : STMoc) : memST t s (stUnionSpec a b) ↔ memST t s (stUnionSpec b a) := by
  rw [union_spec, union_spec, or_comm]
theorem union_empty (t s : Nat) (a : STMoc) : memST t s (stUnionSpec a []) ↔ memST t s a := by
  rw [union_spec, memST_nil, or_false]
theorem union_idem (t s : Nat) (a : STMoc) : memST t s (stUnionSpec a a) ↔ memST t s a := by
  rw [union_spec, or_self]

/-- What the judge `validSTB` guarantees of an output. -/
theorem validSTB_cons (e : List Rng × List Rng) (m : STMoc) (h : validSTB (e :: m) = true) :
    Canon e.1 ∧ e.1 ≠ [] ∧ Canon e.2 ∧ e.2 ≠ [] ∧
    (∀ f ∈ m, lastEnd e.1 ≤ firstInstant f) ∧ validSTB m = true :=
  (validSTB_cons_iff e m).1 h

/-- Hence the time MOCs of the elements of a valid output are pairwise disjoint. -/
theorem valid_elements_disjoint (e f : List Rng × List Rng) (he : Canon e.1) (hf : Canon f.1)
    (h : lastEnd e.1 ≤ firstInstant f) (y : Nat) : ¬ (mem y e.1 ∧ mem y f.1) := by
  rintro ⟨h1, h2⟩
  exact Nat.lt_irrefl y (Nat.lt_of_lt_of_le (mem_bounds e.1 0 he y h1).2
    (Nat.le_trans h (mem_bounds f.1 0 hf y h2).1))

/-! Non-vacuity -/
example : validSTB [([(0, 4), (8, 12)], [(0, 2)]), ([(12, 16)], [(1, 3)])] = true := by decide
example : validSTB [([(0, 8)], [(0, 2)]), ([(4, 12)], [(1, 3)])] = false := by decide

def flatOfST (a : STMoc) : FlatST := a.flatMap fun e => e.1.map fun r => (r, e.2)

theorem mem_flatOfST (a : STMoc) (x : Rng × List Rng) : x ∈ flatOfST a ↔ ∃ e ∈ a, x.1 ∈ e.1 ∧ x.2 = e.2 := by
  unfold flatOfST
  simp only [List.mem_flatMap, List.mem_map]
  constructor
  · rintro ⟨e, he, r, hr, rfl⟩; exact ⟨e, he, hr, rfl⟩
  · rintro ⟨e, he, hr, hx⟩
    refine ⟨e, he, x.1, hr, ?_⟩
    rw [← hx]

/-- A verified union exists in the library: flattening both operands into (time range, coverage) entries and running
    the range-2D construction (`make_consistent`, C09) gives a valid flat coverage of exactly the pairs covered by `a`
    or by `b`.  Nothing is assumed of the order or disjointness of the elements. -/
theorem st_union_reference (a b : STMoc)
    (ha : ∀ e ∈ a, (∀ r ∈ e.1, r.1 < r.2) ∧ Canon e.2 ∧ e.2 ≠ [])
    (hb : ∀ e ∈ b, (∀ r ∈ e.1, r.1 < r.2) ∧ Canon e.2 ∧ e.2 ≠ []) :
    validFlatB (Merge2D.toST (Consistent2D.makeConsistent (flatOfST a ++ flatOfST b))) = true ∧
    ∀ t s, memST t s (Merge2D.toST (Consistent2D.makeConsistent (flatOfST a ++ flatOfST b))) ↔
      memST t s a ∨ memST t s b := by
  have hflat : ∀ m : STMoc, (∀ e ∈ m, (∀ r ∈ e.1, r.1 < r.2) ∧ Canon e.2 ∧ e.2 ≠ []) →
      ∀ x ∈ flatOfST m, x.1.1 < x.1.2 ∧ Canon x.2 ∧ x.2 ≠ [] := fun m hm x hx => by
    obtain ⟨e, he, hr, hx2⟩ := (mem_flatOfST m x).1 hx
    rw [hx2]; exact ⟨(hm e he).1 _ hr, (hm e he).2⟩
  have key : ∀ t s (m : STMoc), Merge2D.memFlat t s (flatOfST m) ↔ memST t s m := by
    intro t s m
    constructor
    · rintro ⟨x, hx, h1, h2, h3⟩
      obtain ⟨e, he, hr, hx2⟩ := (mem_flatOfST m x).1 hx
      exact ⟨e, he, (mem_iff_exists t e.1).2 ⟨x.1, hr, h1, h2⟩, hx2 ▸ h3⟩
    · rintro ⟨e, he, ht, hs⟩
      obtain ⟨r, hr, h1, h2⟩ := (mem_iff_exists t e.1).1 ht
      exact ⟨(r, e.2), (mem_flatOfST m _).2 ⟨e, he, hr, rfl⟩, h1, h2, hs⟩
  have sp := Merge2D.toST_spec (Consistent2D.makeConsistent_spec _
    fun x hx => (List.mem_append.1 hx).elim (hflat a ha x) (hflat b hb x))
  refine ⟨sp.1, fun t s => ?_⟩
  rw [← key t s a, ← key t s b, ← Merge2D.memFlat_append]
  exact sp.2 t s

end Moc.C08
