/-
  C12 — decoders are total; accepted text documents are valid.

  Proved on the ASCII model (`Model/Codec.lean`, the validating reader `from_ascii_ivoa`, repaired):
  * the model reader is a total function of the text (a Lean definition: every recursion is structural or on
    fuel bounded by the input length);
  * whatever is accepted is valid (`ascii_accepts_only_valid`);
  * no arithmetic leaves the index type (`lexTok_bounded`): every number of every token, including the exclusive
    end `end + 1` / `start + len + 1`, is representable on `w` bits.
  Partial (test level, implementation side): totality of the REAL decoders (FITS, multi-order map,
  sky map, streaming ASCII, JSON, ST variants, store loaders) is exercised by mutation fuzzing with
  every panic reported; it cannot be a theorem about Rust code from a hand-written model.
-/
import MocVerif.Props.C07
import MocVerif.Model.Params

namespace Moc.Codec.C12
open Moc Moc.Codec Moc.Codec.C07

def TokBounded (w : Nat) : Tok → Prop
  | .depth d => d < 2 ^ w
  | .cell i => i < 2 ^ w
  | .range s e => s < 2 ^ w ∧ e < 2 ^ w

theorem lexNum_bounded (w : Nat) (l : List Char) (v : Nat) (r : List Char)
    (h : lexNum w l = some (v, r)) : v < 2 ^ w := by
  by_cases h1 : (takeDigits l).1.isEmpty = true
  · exact nomatch (if_pos h1).symm.trans h
  by_cases h2 : digitsVal (takeDigits l).1 < 2 ^ w
  · cases ((if_neg h1).trans (if_pos h2)).symm.trans h
    exact h2
  · exact nomatch ((if_neg h1).trans (if_neg h2)).symm.trans h

/-- **No overflow**: every number carried by a token fits the index type. -/
theorem lexTok_bounded (w : Nat) (l : List Char) (t : Tok) (r : List Char)
    (h : lexTok w l = some (t, r)) : TokBounded w t := by
  unfold lexTok at h
  split at h
  · cases h
  next v rest h1 =>
    have hv := lexNum_bounded w l v rest h1
    split at h
    case h_2 r' | h_3 r' =>
      -- a range: the end was read by `lexNum` and, one more added, tested against `2 ^ w`
      split at h
      · split at h
        · cases h; exact ⟨hv, by assumption⟩
        · cases h
      · cases h
    all_goals cases h; exact hv

theorem pairwise_of_sorted_adj : ∀ (l : List Rng), l.Pairwise (fun a b => a.1 ≤ b.1) →
    (∀ r ∈ l, r.1 < r.2) → adjOverlap l = false → l.Pairwise Disjoint :=
  disjoint_of_sorted_adj

theorem rangeOfItem_nonempty (q : Qty) (w : Nat) (it : Item) (h : it.s < it.e) :
    (rangeOfItem q w it).1 < (rangeOfItem q w it).2 :=
  shl_lt_shl _ it.s it.e h

/-- **Accepted ASCII documents are valid**: for every token sequence the validating reader accepts, there is a
    list of elements, each inside the domain of its depth (depth ≤ declared depth ≤ MAX_DEPTH), pairwise
    non-overlapping, such that the result is the canonical MOC covering exactly those elements. -/
theorem ascii_accepts_only_valid (q : Qty) (w : Nat) (ts : List Tok) (d : Nat) (rs : List Rng)
    (h : decodeToks q w ts = .ok (d, rs)) :
    d ≤ q.maxDepth w ∧ Canon rs ∧
    ∃ items : List Item, (∀ it ∈ items, ItemOk q w it ∧ it.d ≤ d) ∧
      (sortByStart (items.map (rangeOfItem q w))).Pairwise Disjoint ∧
      ∀ x, mem x rs ↔ ∃ it ∈ items, (rangeOfItem q w it).1 ≤ x ∧ x < (rangeOfItem q w it).2 := by
  unfold decodeToks at h
  cases hr : decodeRaw q w ts with
  | error e => rw [hr] at h; cases h
  | ok r =>
    obtain ⟨d0, items⟩ := r
    simp only [hr, finish_eq] at h
    split at h
    · cases h
    next hadj =>
      cases h
      have hraw := decodeRaw_ok q w ts d items hr
      have hne : ∀ r ∈ sortByStart (items.map (rangeOfItem q w)), r.1 < r.2 := by
        intro r hr
        obtain ⟨it, hit, rfl⟩ := List.mem_map.1 ((sortByStart_perm _).mem_iff.1 hr)
        exact rangeOfItem_nonempty q w it (hraw.2 it hit).1.2.2.1
      have n := normalize_spec (items.map (rangeOfItem q w))
      exact ⟨hraw.1, n.1, items, hraw.2,
        disjoint_of_sorted_adj _ (sortByStart_sorted _) hne (Bool.eq_false_iff.2 hadj),
        fun x => by rw [n.2, mem_map_iff]⟩

/-- Holds of any `Except` value: the content is that the model reader is a Lean definition at all (header). -/
theorem decodeAscii_total (q : Qty) (w : Nat) (text : List Char) :
    (∃ d rs, decodeAscii q w text = .ok (d, rs)) ∨ (∃ e, decodeAscii q w text = .error e) := by
  cases h : decodeAscii q w text with
  | ok r => exact Or.inl ⟨r.1, r.2, rfl⟩
  | error e => exact Or.inr ⟨e, rfl⟩

/-! The original tests are refuted on the model of the unrepaired comparisons: index 12 at depth 0 of
    HEALPix (12 base cells, indices 0..11) passes `icell > n_cells` but lies outside the domain. -/
example : ¬ ((12 : Nat) > Params.hpx.nCells 0) ∧ (12 : Nat) ≥ Params.hpx.nCells 0 := by decide
/-! Non-vacuity -/
example : decodeRaw Params.hpx 64 [.depth 1, .cell 2, .range 4 7, .depth 2] = .ok (2, [⟨1, 2, 3⟩, ⟨1, 4, 7⟩]) := rfl
end Moc.Codec.C12
