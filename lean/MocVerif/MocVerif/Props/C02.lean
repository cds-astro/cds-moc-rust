/-
  C02 — every produced MOC is in canonical form (`Valid q w d`): ranges non-empty, strictly
  increasing, disjoint and NON-ADJACENT, inside `[0, n_cells_max]`, aligned on the cells of the
  declared depth.  Consequently equal sets ⇒ equal MOCs.
-/
import MocVerif.Lemmas.Expr
import MocVerif.Model.Params
import MocVerif.Props.C06
import MocVerif.Lemmas.ValidOps
import MocVerif.Lemmas.Valid

namespace Moc.C02

/-- The executable judge used by the correspondence check on every implementation output is the
    property itself. -/
theorem validB_iff (q : Qty) (w d : Nat) (rs : List Rng) : validB q w d rs = true ↔ Valid q w d rs :=
  Moc.validB_iff q w d rs

/-- **Programs.** Any expression tree over and / or / xor / minus / not / degrade (eager `RangeMOC`
    methods) applied to valid leaves yields a valid MOC of a legal depth. -/
theorem eval_valid (q : Qty) (w : Nat) (h0 : 0 < q.nCellsMax w) (e : Expr)
    (hl : e.LeavesOk q w) (hd : e.DepthsOk q w) :
    Valid q w (evalE q w e).1 (evalE q w e).2 ∧ (evalE q w e).1 ≤ q.maxDepth w :=
  evalE_valid q w h0 e hl hd

/-- The "consequently": two valid MOCs covering the same set are equal (unique normal form). -/
theorem valid_eq_of_same_set (q : Qty) (w d : Nat) (a b : List Rng) (ha : Valid q w d a) (hb : Valid q w d b)
    (h : ∀ x, mem x a ↔ mem x b) : a = b :=
  Canon.ext ha.1 hb.1 h

/-- `RangeMOC::new_full_domain`. -/
theorem new_full_domain_valid (q : Qty) (w d : Nat) (h0 : 0 < q.nCellsMax w) :
    Valid q w d [(0, q.nCellsMax w)] := by
  refine ⟨⟨Nat.le_refl _, h0, trivial⟩, ?_, ?_⟩
  · intro r hr; simp at hr; subst hr; exact Nat.le_refl _
  · intro r hr; simp at hr; subst hr; exact ⟨Nat.dvd_zero _, q.cellSize_dvd_nCellsMax w d⟩
/-- `RangeMOC::new_empty`. -/
theorem new_empty_valid (q : Qty) (w d : Nat) : Valid q w d [] :=
  ⟨trivial, fun r hr => by simp at hr, fun r hr => by simp at hr⟩

/-- `Ranges::new_from` (sort by start, then fuse as `new_from_sorted` does) produces a canonical list from any non-empty
    ranges. -/
theorem new_from_canon (l : List Rng) (hne : ∀ r ∈ l, r.1 < r.2) : Canon (newFrom l) :=
  (newFrom_spec l hne).1

/-! Per-operator preservation: the steps of `eval_valid`, stated for direct use as well. -/
theorem complement_valid (q : Qty) (w d : Nat) (a : List Rng) (h0 : 0 < q.nCellsMax w)
    (ha : Valid q w d a) : Valid q w d (complement (q.nCellsMax w) a) := valid_complement q w d a h0 ha
theorem degraded_valid (q : Qty) (w d nd : Nat) (a : List Rng) (ha : Valid q w d a) :
    Valid q w nd (degradedShift (q.shiftFromMax w nd) a) := valid_degraded q w d nd a ha
theorem binary_valid (q : Qty) (w dl dr : Nat) (a b o : List Rng) (f : Prop → Prop → Prop)
    (hf : ¬ f False False) (ha : Valid q w dl a) (hb : Valid q w dr b) (ho : Canon o)
    (hsem : ∀ x, mem x o ↔ f (mem x a) (mem x b)) : Valid q w (max dl dr) o :=
  valid_binary q w dl dr a b o f hf ha hb ho hsem

/-- Alignment is a property of the covered set. -/
theorem aligned_iff_cell_closed (c : Nat) (hc : 0 < c) (l : List Rng) (hcan : Canon l) :
    Aligned c l ↔ CellClosed c l := aligned_iff_cellClosed c hc l hcan

theorem nCells_mul (q : Qty) (w d : Nat) (hd : d ≤ q.maxDepth w) :
    q.nCells d * 2 ^ q.shiftFromMax w d = q.nCellsMax w := by
  unfold Qty.nCells Qty.shiftFromMax
  rw [Qty.nCellsMax_eq, Nat.shiftLeft_eq, Nat.mul_assoc, ← Nat.pow_add, ← Nat.mul_add, Nat.add_sub_of_le hd]

/-- **Fixed-depth builder**: for in-domain cells the MOC built is VALID at the builder depth, whatever the order,
    duplicates and buffer capacity. -/
theorem fixedDepth_builder_valid (q : Qty) (w d cap : Nat) (cells : List Nat) (hd : d ≤ q.maxDepth w)
    (hc : ∀ c ∈ cells, c < q.nCells d) :
    Valid q w d (fromFixedDepthCells (q.shiftFromMax w d) cap cells) := by
  have sem := C06.build_sem (q.shiftFromMax w d) cap cells
  rw [← q.cellSize_eq_pow] at sem
  refine .of_set sem.1 (fun x hx => ?_) (fun x y hxy hx => (sem.2 y).2 (hxy ▸ (sem.2 x).1 hx))
  -- `x` lies in the cell `x / cellSize`, which is one of the `nCells d` cells that tile the domain
  rw [← nCells_mul q w d hd, ← q.cellSize_eq_pow]
  exact (Nat.div_lt_iff_lt_mul (q.cellSize_pos w d)).1 (hc _ ((sem.2 x).1 hx))

/-- **Range builder** (`from_maxdepth_ranges`, `from_cells`, the time / frequency range builders): for
    in-domain ranges — EMPTY ONES INCLUDED (`start >= end`: ignored since /repo "fix: RangeMocBuilder kept empty
    input ranges") — the MOC built is VALID at the builder depth. -/
theorem range_builder_valid (q : Qty) (w d cap : Nat) (rs : List Rng)
    (hr : ∀ r ∈ rs, r.2 ≤ q.nCellsMax w) :
    Valid q w d (fromMaxdepthRanges (q.shiftFromMax w d) cap rs) := by
  have sem := C06.rangeBuilder_sem_all (q.shiftFromMax w d) cap rs
  exact .of_cells sem.1 hr fun x => (sem.2 x).trans (exists_mem_range rs)

/-! Non-vacuity -/
example : 0 < Params.hpx.nCellsMax 64 := by decide
example : Valid Params.time 16 2 [(0, 2048), (4096, 6144)] :=
  (validB_iff _ _ _ _).1 (by decide)
example : (Expr.and (.leaf ⟨2, [(0, 2048)], none, 0, none, []⟩) (.not (.leaf ⟨2, [(0, 2048)], none, 0, none, []⟩))).DepthsOk
    Params.time 16 := by simp [Expr.DepthsOk]; decide

end Moc.C02
