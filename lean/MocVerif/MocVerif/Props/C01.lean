/-
  C01 — 1-D MOC operators compute exactly the set-theoretic result.
-/
import MocVerif.Lemmas.Sweep
import MocVerif.Lemmas.LazyOps
import MocVerif.Lemmas.Degrade
import MocVerif.Lemmas.Valid

namespace Moc.C01

/-- `BorrowedRanges::union` (incl. its empty / concatenation / binary-search fast paths). -/
theorem union_sem (a b : List Rng) (ha : Canon a) (hb : Canon b) :
    Canon (union a b) ∧ ∀ x, mem x (union a b) ↔ mem x a ∨ mem x b :=
  union_spec a b ha hb

/-- `BorrowedRanges::intersection` (incl. quick rejection and binary-search start). -/
theorem intersection_sem (a b : List Rng) (ha : Canon a) (hb : Canon b) :
    Canon (intersection a b) ∧ ∀ x, mem x (intersection a b) ↔ mem x a ∧ mem x b :=
  intersection_spec a b ha hb

/-- `BorrowedRanges::merge(op)`, the generic edge sweep. -/
theorem merge_sem (op : Bool → Bool → Bool) (hop : op false false = false) (a b : List Rng)
    (ha : Canon a) (hb : Canon b) :
    Canon (merge op a b) ∧ ∀ x, mem x (merge op a b) ↔ op (decide (mem x a)) (decide (mem x b)) = true :=
  merge_spec op hop a b ha hb

/-- `SNORanges::difference`. -/
theorem difference_sem (a b : List Rng) (ha : Canon a) (hb : Canon b) :
    Canon (difference a b) ∧ ∀ x, mem x (difference a b) ↔ mem x a ∧ ¬ mem x b :=
  difference_spec a b ha hb

/-- `complement_with_upper_bound`. -/
theorem complement_sem (ub : Nat) (a : List Rng) (hub : 0 < ub) (ha : Canon a) (hb : BoundedBy ub a) :
    Canon (complement ub a) ∧ ∀ x, mem x (complement ub a) ↔ x < ub ∧ ¬ mem x a :=
  complement_spec ub a hub ha hb

/-- `Ranges::new_from` on arbitrary (unsorted, overlapping, touching) non-empty ranges. -/
theorem newFrom_sem (l : List Rng) (hne : ∀ r ∈ l, r.1 < r.2) :
    Canon (newFrom l) ∧ ∀ x, mem x (newFrom l) ↔ mem x l :=
  newFrom_spec l hne

/-- The fast paths never matter: eager `intersection` is the plain two-pointer loop that the lazy
    `AndRangeIter` runs, eager `union` is the loop `OrRangeIter` runs. -/
theorem eager_eq_loops (a b : List Rng) (ha : Canon a) (hb : Canon b) :
    intersection a b = interLoop a b ∧ union a b = unionLoop a b :=
  ⟨intersection_eq_interLoop a b ha hb, union_eq_unionLoop a b ha hb⟩

/-- The "consequently" of the property: all routes to the same set give the same list. -/
theorem difference_eq_of_same_set (a b c : List Rng) (ha : Canon a) (hb : Canon b) (hc : Canon c)
    (h : ∀ x, mem x c ↔ mem x a ∧ ¬ mem x b) : difference a b = c :=
  Canon.eq_of_spec (difference_sem a b ha hb) ⟨hc, h⟩

/-- `MocRanges::degraded` / `RangeMOC::degraded`: the result covers exactly the cells of the target
    depth (size `2^s`, `s = shift_from_depth_max(new_depth)`) that contain a covered index. -/
theorem degraded_sem (s : Nat) (a : List Rng) (ha : Canon a) :
    Canon (degradedShift s a) ∧
    ∀ x, mem x (degradedShift s a) ↔ ∃ y, mem y a ∧ x / 2 ^ s = y / 2 ^ s :=
  degradedShift_spec s a ha

/-! #### lazy / streaming operators, for EVERY consistent hint configuration of the sources -/

/-- `and(l, r)`: whatever (consistent) `peek_last` hints the two sources advertise. -/
theorem lazy_and_sem (l r : Src) (hl : l.HintOk) (hr : r.HintOk) (cl : Canon l.items) (cr : Canon r.items) :
    (andSrc l r).depth = max l.depth r.depth ∧ Canon (andSrc l r).items ∧
    (andSrc l r).items = intersection l.items r.items ∧
    ∀ x, mem x (andSrc l r).items ↔ mem x l.items ∧ mem x r.items := by
  have e := andSrc_items l r hl hr cl cr
  have sp := intersection_spec l.items r.items cl cr
  exact ⟨rfl, e ▸ sp.1, e, e ▸ sp.2⟩

/-- `or(l, r)` incl. the `DisjointRightFirst` concatenation strategy. -/
theorem lazy_or_sem (l r : Src) (hr : r.HintOk) (cl : Canon l.items) (cr : Canon r.items) :
    (orSrc l r).depth = max l.depth r.depth ∧ Canon (orSrc l r).items ∧
    (orSrc l r).items = union l.items r.items ∧
    ∀ x, mem x (orSrc l r).items ↔ mem x l.items ∨ mem x r.items := by
  have e := orSrc_items l r hr cl cr
  have sp := union_spec l.items r.items cl cr
  exact ⟨rfl, e ▸ sp.1, e, e ▸ sp.2⟩

/-- `xor(l, r)` (also `RangeMOC::xor`, which collects this iterator). -/
theorem lazy_xor_sem (l r : Src) (cl : Canon l.items) (cr : Canon r.items) :
    (xorSrc l r).depth = max l.depth r.depth ∧ Canon (xorSrc l r).items ∧
    ∀ x, mem x (xorSrc l r).items ↔ (mem x l.items ↔ ¬ mem x r.items) :=
  ⟨rfl, xorLoop_spec l.items r.items 0 cl cr⟩

/-- `minus(l, r)` (also `RangeMOC::minus`), for the repaired quick tests. -/
theorem lazy_minus_sem (l r : Src) (hl : l.HintOk) (hr : r.HintOk) (cl : Canon l.items) (cr : Canon r.items) :
    (minusSrc l r).depth = max l.depth r.depth ∧ Canon (minusSrc l r).items ∧
    (minusSrc l r).items = difference l.items r.items ∧
    ∀ x, mem x (minusSrc l r).items ↔ mem x l.items ∧ ¬ mem x r.items := by
  have e := minusSrc_items l r hl hr cl cr
  have sp := difference_spec l.items r.items cl cr
  exact ⟨rfl, e ▸ sp.1, e, e ▸ sp.2⟩

/-- `not(s)` = complement in `[0, n_cells_max)`. -/
theorem lazy_not_sem (ub : Nat) (hub : 0 < ub) (s : Src) (cs : Canon s.items) (hb : BoundedBy ub s.items) :
    (notSrc ub s).depth = s.depth ∧ Canon (notSrc ub s).items ∧
    ∀ x, mem x (notSrc ub s).items ↔ x < ub ∧ ¬ mem x s.items := by
  rw [notSrc_items]
  exact ⟨notSrc_depth ub s, complement_spec ub s.items hub cs hb⟩

/-- `degrade(s, new_depth)` with `new_depth < depth`. -/
theorem lazy_degrade_sem (sh nd : Nat) (s : Src) (cs : Canon s.items) (hnd : nd < s.depth) :
    (degradeSrc sh nd s).depth = nd ∧ (degradeSrc sh nd s).items = degradedShift sh s.items := by
  rw [degradeSrc_depth, degradeSrc_items sh nd s cs, if_pos hnd]
  exact ⟨Nat.min_eq_right (Nat.le_of_lt hnd), rfl⟩

/-- Bounds and cell alignment are preserved by every operator computing a pointwise Boolean
    combination `f` (with `¬ f False False`) — hence by and / or / xor / minus, eager or lazy. -/
theorem binary_valid (c ub : Nat) (hc : 0 < c) (a b o : List Rng) (f : Prop → Prop → Prop)
    (hf : ¬ f False False) (ha : Canon a) (hb : Canon b) (ho : Canon o)
    (hba : BoundedBy ub a) (hbb : BoundedBy ub b) (haa : Aligned c a) (hab : Aligned c b)
    (hsem : ∀ x, mem x o ↔ f (mem x a) (mem x b)) : BoundedBy ub o ∧ Aligned c o :=
  valid_of_sem c ub hc a b o f hf ho hba hbb haa hab hsem

/-! Non-vacuity: concrete non-trivial values meeting the hypotheses. -/
example : Canon [(0, 4), (8, 12)] ∧ Canon [(2, 9)] := by decide
-- the loops are defined by well-founded recursion, on which `decide` and `rfl` get stuck: `simp` unfolds their equations
example : union [(0, 4), (8, 12)] [(2, 9)] = [(0, 12)] := by
  simp [union, unionLoop, lastEndD, consumeWhileEndLe]
example : intersection [(0, 4), (8, 12)] [(2, 9)] = [(2, 4), (8, 9)] := by
  simp [intersection, interLoop, lastEndD, startIdx]
example : complement 12 [(0, 4), (8, 12)] = [(4, 8)] := by
  simp [complement, complFrom]
example : xorLoop [(0, 4), (8, 12)] [(2, 9)] = [(0, 2), (4, 8), (9, 12)] := by
  simp [xorLoop]
example : (⟨2, [(0, 4), (8, 12)], some (8, 12), 2, some 2, []⟩ : Src).HintOk := by
  simp [Src.HintOk]

end Moc.C01
