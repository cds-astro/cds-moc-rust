/-
  C03 — membership, containment, overlap and measure queries agree with the covered set, on all canonical MOCs.
  For the fractions the claim is about the integer pair handed to the final `f64` division; that division and the
  multi-order-map weighted sum are compared bit-for-bit by the correspondence (not modelled in Lean).
-/
import MocVerif.Lemmas.Query
import MocVerif.Lemmas.Measure
import MocVerif.Lemmas.Cells

namespace Moc.C03

/-- `contains_val`: binary search on the flattened bounds + parity. -/
theorem containsVal_iff (m : List Rng) (hm : Canon m) (x : Nat) : containsVal m x = true ↔ mem x m :=
  Moc.containsVal_iff m hm x

/-- `contains_range` (also `contains_cell`). -/
theorem containsRange_iff (m : List Rng) (hm : Canon m) (x : Rng) (hx : x.1 < x.2) :
    containsRange m x = true ↔ ∀ y, x.1 ≤ y → y < x.2 → mem y m :=
  Moc.containsRange_iff m hm x hx

/-- `intersects_range`. -/
theorem intersectsRange_iff (m : List Rng) (hm : Canon m) (x : Rng) (hx : x.1 < x.2) :
    intersectsRange m x = true ↔ ∃ y, x.1 ≤ y ∧ y < x.2 ∧ mem y m :=
  Moc.intersectsRange_iff m hm x hx

/-- `intersects` (incl. quick rejection and binary-search start). -/
theorem intersects_iff (a b : List Rng) (ha : Canon a) (hb : Canon b) :
    intersects a b = true ↔ ∃ y, mem y a ∧ mem y b :=
  Moc.intersects_iff a b ha hb

/-- `SNORanges::contains(rhs)`. -/
theorem subset_iff (m rhs : List Rng) (hm : Canon m) (hr : Canon rhs) :
    containsAll m rhs = true ↔ ∀ y, mem y rhs → mem y m :=
  Moc.containsAll_iff m rhs hm hr

/-- `overlapped_by_iter` (repaired): a total function, in particular on empty operands. -/
theorem overlappedBy_eq (a b : List Rng) (ha : Canon a) (hb : Canon b) :
    overlappedBy a b = a.filter (meetsB b) :=
  Moc.overlappedBy_eq a b ha hb

/-- None of the modelled queries fails on an empty MOC. -/
theorem empty_moc_answers (x : Nat) (r : Rng) (b : List Rng) :
    containsVal [] x = false ∧ containsRange [] r = false ∧ intersectsRange [] r = false ∧
    intersects [] b = false ∧ intersects b [] = false ∧ overlappedBy [] b = [] ∧ overlappedBy b [] = [] ∧
    rangeSum [] = 0 ∧ rangeFractionPair [] r = (0, 1) := by
  refine ⟨rfl, rfl, rfl, rfl, ?_, rfl, ?_, rfl, rfl⟩
  · cases b <;> rfl
  · cases b <;> rfl

/-- `range_sum`; `N` is any bound of the domain. -/
theorem rangeSum_counts (m : List Rng) (hm : Canon m) (N : Nat) (hN : ∀ r ∈ m, r.2 ≤ N) :
    (List.range N).countP (fun y => decide (mem y m)) = rangeSum m := by
  have := rangeSum_counts_from hm hN (Nat.zero_le _)
  unfold coveredIn at this
  rw [List.range_eq_range']
  simpa using this

/-- `range_fraction` / `cell_fraction`: the pair `(num, den)` handed to the final `f64` division depends only on the
    number `c` of covered indices of the query; `(0,1)` and `(1,1)` stand for the literals `0.0` and `1.0`.  Quick
    rejection, binary-search start index and accumulation loop are part of the modelled function. -/
theorem rangeFraction_sem (m : List Rng) (hm : Canon m) (x : Rng) (hx : x.1 < x.2) :
    rangeFractionPair m x =
      (let c := (List.range' x.1 (x.2 - x.1)).countP (fun y => decide (mem y m))
       let tot := x.2 - x.1
       if c = 0 then (0, 1)
       else if c = tot then (1, 1)
       else if tot >>> 52 > 0 then (c >>> bitLen (tot >>> 52), tot >>> bitLen (tot >>> 52))
       else (c, tot)) :=
  rangeFractionPair_spec m hm x hx

/-- `n_depth_max_cells`, when every bound is a multiple of the cell size `2^shift` (the MOC is valid at that depth). -/
theorem cellCount_sem (shift : Nat) (m : List Rng)
    (ha : ∀ r ∈ m, r.1 ≤ r.2 ∧ r.1 % 2 ^ shift = 0 ∧ r.2 % 2 ^ shift = 0) :
    nDepthMaxCells shift m * 2 ^ shift = rangeSum m := by
  unfold nDepthMaxCells
  rw [Nat.shiftRight_eq_div_pow]
  apply Nat.div_mul_cancel
  induction m with
  | nil => simp [rangeSum]
  | cons r t ih =>
    simp only [rangeSum]
    have h := ha r List.mem_cons_self
    apply Nat.dvd_add
    · exact Nat.dvd_sub (Nat.dvd_of_mod_eq_zero h.2.2) (Nat.dvd_of_mod_eq_zero h.2.1)
    · exact ih (fun q hq => ha q (List.mem_cons_of_mem _ hq))

/-- `coverage_percentage`: the pair divided, both members shifted alike on index types wider than 52 bits. -/
theorem coverage_sem (w ub : Nat) (m : List Rng) :
    coveragePair w ub m = if w > 52 then (rangeSum m >>> (w - 52), ub >>> (w - 52)) else (rangeSum m, ub) := rfl

/-! Non-vacuity -/
example : Canon [(2, 4), (8, 12)] := by decide
example : containsVal [(2, 4), (8, 12)] 3 = true ∧ containsVal [(2, 4), (8, 12)] 4 = false := by decide
example : containsRange [(2, 4), (8, 12)] (8, 12) = true ∧ intersectsRange [(2, 4), (8, 12)] (4, 8) = false := by
  decide

/-- `first_index` / `last_index`: the smallest covered index and one past the largest (`last_index` is the exclusive
    end of the last range). -/
theorem first_last_index (l : List Rng) (hc : Canon l) :
    (∀ a, firstIndex l = some a → mem a l ∧ ∀ x, mem x l → a ≤ x) ∧
    (∀ b, lastIndex l = some b → (∃ x, mem x l ∧ x + 1 = b) ∧ ∀ x, mem x l → x < b) ∧
    (firstIndex l = none ↔ l = []) ∧ (lastIndex l = none ↔ l = []) := by
  cases l with
  | nil => exact ⟨fun _ h => (nomatch h), fun _ h => (nomatch h), ⟨fun _ => rfl, fun _ => rfl⟩, ⟨fun _ => rfl, fun _ => rfl⟩⟩
  | cons r t =>
    have hb := mem_bounds (r :: t) 0 hc
    refine ⟨fun a ha => ?_, fun b hb' => ?_, by simp [firstIndex], by simp [lastIndex_cons]⟩
    · cases ha
      exact ⟨Or.inl ⟨Nat.le_refl _, hc.2.1⟩, fun x hx => (hb x hx).1⟩
    · rw [lastIndex_cons] at hb'
      cases hb'
      exact ⟨exists_mem_succ_eq_lastEnd hc, fun x hx => (hb x hx).2⟩

theorem dvd_or (k a b : Nat) : 2 ^ k ∣ (a ||| b) ↔ 2 ^ k ∣ a ∧ 2 ^ k ∣ b := by
  simp only [Nat.dvd_iff_mod_eq_zero, Nat.or_mod_two_pow, Nat.or_eq_zero_iff]

theorem dvd_orBounds (k : Nat) : ∀ (l : List Rng), 2 ^ k ∣ orBounds l ↔ Aligned (2 ^ k) l := by
  intro l
  induction l with
  | nil => simp [orBounds, Aligned]
  | cons r t ih =>
    simp only [orBounds, dvd_or, ih, Aligned, List.mem_cons, forall_eq_or_imp]

/-- `compute_min_depth` is the smallest depth at which the ranges are a union of whole cells; it is computed, as in the
    code, from the trailing zeros of the OR of all the bounds (0 for the empty MOC). -/
theorem computeMinDepth_spec (q : Qty) (w : Nat) (l : List Rng) (hdim : 0 < q.dim) (hw : q.dim * q.maxDepth w ≤ w)
    (d : Nat) (hd : d ≤ q.maxDepth w) :
    Aligned (2 ^ q.shiftFromMax w d) l ↔ computeMinDepth q w l ≤ d := by
  have hk : q.shiftFromMax w d ≤ w := Nat.le_trans (Nat.mul_le_mul_left _ (Nat.sub_le _ _)) hw
  rw [← dvd_orBounds, ← le_tz_iff w _ _ hk]
  unfold computeMinDepth Qty.shiftFromMax
  -- `m - d ≤ t` is `m ≤ t + d`; `m - min t m ≤ d` is `m ≤ d + min t m`, i.e. `m ≤ d + t` and (trivially) `m ≤ d + m`
  rw [Nat.mul_comm, ← Nat.le_div_iff_mul_le hdim, Nat.sub_le_iff_le_add, Nat.sub_le_iff_le_add, ← Nat.add_min_add_left,
    Nat.le_min, and_iff_left (Nat.le_add_left _ _), Nat.add_comm]

end Moc.C03
