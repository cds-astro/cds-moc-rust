/-
  C09 — space-time MOC construction represents exactly the observations given.
  Specification: a pair is covered iff some observation covers it (`obsB`); the real builders (both streaming
  builders, all arrival orders / duplicates / capacities) and the range-2D path are compared with it point by point on
  a grid of representative instants and positions.
  Proved of the code as transliterated: the range-2D path (`range2d_path_*`, `Ranges2D::make_consistent`) and what one
  drained buffer of the streaming builder becomes (`buffer_elements_*`).
-/
import MocVerif.Lemmas.Consistent2D
import MocVerif.Lemmas.STBuilder

namespace Moc.C09

/-- The specification: exactly the union of the products (time range) × (space range). -/
theorem obs_spec (obs : List (Rng × Rng)) (t s : Nat) :
    obsB obs t s = true ↔ ∃ o ∈ obs, (o.1.1 ≤ t ∧ t < o.1.2) ∧ (o.2.1 ≤ s ∧ s < o.2.2) := by
  simp only [obsB, List.any_eq_true, Bool.and_eq_true, decide_eq_true_eq]

/-- Hence any construction path that agrees with the specification is independent of order and duplicates; the check
    establishes that agreement for the real code. -/
theorem obs_perm (a b : List (Rng × Rng)) (h : ∀ o, o ∈ a ↔ o ∈ b) (t s : Nat) : obsB a t s = obsB b t s := by
  rw [Bool.eq_iff_iff, obs_spec, obs_spec]
  exact exists_mem_congr h _

theorem obs_dup (a : List (Rng × Rng)) (t s : Nat) : obsB (a ++ a) t s = obsB a t s :=
  obs_perm (a ++ a) a (fun o => by rw [List.mem_append, or_self]) t s

/-- The range-2D construction path as computed (`Ranges2D::make_consistent`, behind
    `create_from_time_ranges_spatial_coverage`, transliterated in `Model/Consistent2D.lean` and tied to the code by
    exact agreement of the entries), on every list of observations: any order; overlapping, touching, nested or
    duplicated time ranges. -/
theorem range2d_path_sem (entries : FlatST) (he : ∀ e ∈ entries, e.1.1 < e.1.2 ∧ Canon e.2 ∧ e.2 ≠ []) (t s : Nat) :
    memST t s (Merge2D.toST (Consistent2D.makeConsistent entries)) ↔
      ∃ e ∈ entries, (e.1.1 ≤ t ∧ t < e.1.2) ∧ mem s e.2 := by
  rw [(Merge2D.toST_spec (Consistent2D.makeConsistent_spec entries he)).2 t s]
  simp only [and_assoc]

theorem range2d_path_valid (entries : FlatST) (he : ∀ e ∈ entries, e.1.1 < e.1.2 ∧ Canon e.2 ∧ e.2 ≠ []) :
    validFlatB (Merge2D.toST (Consistent2D.makeConsistent entries)) = true :=
  (Merge2D.toST_spec (Consistent2D.makeConsistent_spec entries he)).1

/-- `create_from_time_ranges_spatial_coverage` / `create_from_time_ranges_positions` on every list of observations,
    including one whose time range is empty (`tmin = tmax`: an instant written as a range) or whose coverage is empty
    (repaired: such an observation is removed as a whole before the sweep).  Before /repo "fix: an empty time range
    shifted the positions of the following observations" the time ranges alone were filtered, so that [5,5)@1,
    [10,20)@2, [30,40)@3 gave [10,20)x{1}, [30,40)x{2}; an empty coverage gave an element with an empty S-MOC. -/
theorem range2d_path_all_observations (entries : FlatST) (he : ∀ e ∈ entries, Canon e.2) :
    validFlatB (Merge2D.toST (Consistent2D.fromObservations entries)) = true ∧
    ∀ t s, memST t s (Merge2D.toST (Consistent2D.fromObservations entries)) ↔
      ∃ e ∈ entries, (e.1.1 ≤ t ∧ t < e.1.2) ∧ mem s e.2 := by
  have sp := Merge2D.toST_spec (Consistent2D.fromObservations_spec entries he)
  refine ⟨sp.1, fun t s => ?_⟩
  rw [sp.2 t s]
  simp only [Merge2D.memFlat, and_assoc]

theorem range2d_path_order_independent (a b : FlatST)
    (ha : ∀ e ∈ a, e.1.1 < e.1.2 ∧ Canon e.2 ∧ e.2 ≠ []) (hb : ∀ e ∈ b, e.1.1 < e.1.2 ∧ Canon e.2 ∧ e.2 ≠ [])
    (h : ∀ e, e ∈ a ↔ e ∈ b) (t s : Nat) :
    memST t s (Merge2D.toST (Consistent2D.makeConsistent a)) ↔
      memST t s (Merge2D.toST (Consistent2D.makeConsistent b)) := by
  rw [Consistent2D.makeConsistent_congr a b ha hb fun _ _ => exists_mem_congr h _]

/-- The entries themselves, not only the set covered (`makeConsistent` computes a normal form). -/
theorem range2d_path_entries_order_independent (a b : FlatST)
    (ha : ∀ e ∈ a, e.1.1 < e.1.2 ∧ Canon e.2 ∧ e.2 ≠ []) (hb : ∀ e ∈ b, e.1.1 < e.1.2 ∧ Canon e.2 ∧ e.2 ≠ [])
    (h : ∀ e, e ∈ a ↔ e ∈ b) : Consistent2D.makeConsistent a = Consistent2D.makeConsistent b :=
  Consistent2D.makeConsistent_congr a b ha hb fun _ _ => exists_mem_congr h _

/-- Two values of the specification `obsB` on the input that showed the defect found in `Ranges2D::make_consistent`
    (seeding the open set with entry 0): for `[(10..20, S0), (0..5, S1)]`, `S0 = [0,4)`, `S1 = [8,12)`, the original
    code returned `[0,20) × S0` (`[5,10) × S0` invented, `S1` lost), wrong at both pairs.  Nothing here speaks of the
    code; the repaired sweep is `range2d_path_*`. -/
theorem make_consistent_counterexample :
    obsB [((10, 20), (0, 4)), ((0, 5), (8, 12))] 7 1 = false ∧
    obsB [((10, 20), (0, 4)), ((0, 5), (8, 12))] 2 9 = true := by decide

section Buffer
open Moc.STBuilder

/-- The elements `buff_to_moc` builds from a drained buffer of `(time cell, space cell)` observations (the space cells
    of one time cell gathered, consecutive time cells with the same coverage grouped) cover exactly what was pushed. -/
theorem buffer_elements_exact (buf : List (Nat × Nat)) (t s : Nat) :
    InElems (buffToElems buf) t s ↔ (t, s) ∈ buf := by
  unfold buffToElems
  rw [inElems_mergeRuns, inGroups_groups]

/-- One group per time cell, in increasing order, and no two consecutive elements with the same space coverage: the form
    the library's other constructors produce. -/
theorem buffer_elements_canonical (buf : List (Nat × Nat)) :
    STBuilder.SortedFrom 0 (groups buf) ∧ Alternating (buffToElems buf) :=
  ⟨groups_sorted buf, mergeRuns_alternating _⟩

theorem buffer_elements_order_independent (b1 b2 : List (Nat × Nat)) (h : ∀ o, o ∈ b1 ↔ o ∈ b2) (t s : Nat) :
    InElems (buffToElems b1) t s ↔ InElems (buffToElems b2) t s := by
  rw [buffer_elements_exact, buffer_elements_exact]; exact h (t, s)

example : buffToElems [(5, 3), (2, 3), (2, 1), (5, 3), (6, 3), (9, 1)] = [([2], [1, 3]), ([5, 6], [3]), ([9], [1])] := by decide

end Buffer

end Moc.C09
