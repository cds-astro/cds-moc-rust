/-
  C06 — builders and n-ary operators are insensitive to order, duplication and batching.
-/
import MocVerif.Lemmas.Builders
import MocVerif.Lemmas.RangeBuilder
import MocVerif.Lemmas.LazyOps

namespace Moc.C06

/-- **Fixed-depth cell builder** (`FixedDepthMocBuilder`, `from_fixed_depth_cells`): for EVERY sequence
    of cells and EVERY buffer capacity, the MOC built is the normal form of the union of the pushed
    cells.  The right-hand side mentions neither the arrival order, nor duplicates, nor `cap`. -/
theorem fixedDepth_build (sh cap : Nat) (cells : List Nat) :
    fromFixedDepthCells sh cap cells = normalize (cells.map fun c => (c <<< sh, (c + 1) <<< sh)) := by
  have hf := (FdInv.foldl (sh := sh) (cap := cap) (b := {}) (base := []) (pushed := []) cells
    ⟨fun _ => .nil, trivial, fun _ => Iff.rfl⟩).intoMoc
  exact eq_normalize hf.1 fun x => by rw [mem_map_cellRange]; exact (hf.2 x).trans (false_or _).to_iff

theorem build_perm (sh cap cap' : Nat) (a b : List Nat) (h : ∀ c, c ∈ a ↔ c ∈ b) :
    fromFixedDepthCells sh cap a = fromFixedDepthCells sh cap' b := by
  rw [fixedDepth_build, fixedDepth_build]
  exact normalize_congr fun x => by rw [mem_map_cellRange, mem_map_cellRange, h]

theorem build_dedup (sh cap : Nat) (a : List Nat) :
    fromFixedDepthCells sh cap (a ++ a) = fromFixedDepthCells sh cap a :=
  build_perm sh cap cap (a ++ a) a fun _ => List.mem_append.trans or_self_iff

theorem build_cap_irrelevant (sh cap cap' : Nat) (a : List Nat) :
    fromFixedDepthCells sh cap a = fromFixedDepthCells sh cap' a :=
  build_perm sh cap cap' a a (fun _ => Iff.rfl)

theorem build_sem (sh cap : Nat) (cells : List Nat) :
    Canon (fromFixedDepthCells sh cap cells) ∧
    ∀ x, mem x (fromFixedDepthCells sh cap cells) ↔ x / 2 ^ sh ∈ cells := by
  rw [fixedDepth_build]
  exact ⟨(normalize_spec _).1, fun x => by rw [(normalize_spec _).2, mem_map_cellRange]⟩

/-- **Appending to an existing MOC** (`append_fixed_depth_cells`): same MOC as building the union from scratch,
    whatever the order, duplicates and capacity. -/
theorem append_sem (sh cap : Nat) (moc : List Rng) (hm : Canon moc) (cells : List Nat) :
    Canon (appendFixedDepthCells sh cap moc cells) ∧
    ∀ x, mem x (appendFixedDepthCells sh cap moc cells) ↔ mem x moc ∨ x / 2 ^ sh ∈ cells :=
  (FdInv.foldl (sh := sh) (cap := cap) (b := { moc := some moc }) (pushed := []) cells
    ⟨fun _ => .nil, hm, fun _ => Iff.rfl⟩).intoMoc

theorem append_eq_union (sh cap cap' : Nat) (moc : List Rng) (hm : Canon moc) (cells : List Nat) :
    appendFixedDepthCells sh cap moc cells = union moc (fromFixedDepthCells sh cap' cells) := by
  have a := append_sem sh cap moc hm cells
  have b := build_sem sh cap' cells
  have u := union_spec moc _ hm b.1
  exact Canon.ext a.1 u.1 (fun x => by rw [a.2, u.2, b.2])

/-- **Range builder** (`RangeMocBuilder`, `from_maxdepth_ranges`, hence `from_cells` and the time /
    frequency range builders): for EVERY sequence of non-empty ranges and EVERY buffer capacity, the MOC
    built is the normal form of the union of the pushed ranges degraded to the builder depth. -/
theorem rangeBuilder_build (sh cap : Nat) (rs : List Rng) (hr : ∀ r ∈ rs, r.1 < r.2) :
    fromMaxdepthRanges sh cap rs = normalize (rs.map (degradeRange sh)) := by
  rw [fromMaxdepthRanges_eq_all, List.filter_eq_self.2 fun r h => decide_eq_true (hr r h)]

/-- **Every input**, including empty ranges (`start >= end`, the empty set: a zero-duration observation, a
    zero-width band) — they contribute nothing whatever their alignment on the builder depth.  Before the
    repair (/repo "fix: RangeMocBuilder kept empty input ranges") an aligned empty range was kept as an empty
    range of the MOC and an unaligned one became a whole cell. -/
theorem rangeBuilder_sem_all (sh cap : Nat) (rs : List Rng) :
    Canon (fromMaxdepthRanges sh cap rs) ∧
    ∀ x, mem x (fromMaxdepthRanges sh cap rs) ↔ ∃ r ∈ rs, ∃ y, r.1 ≤ y ∧ y < r.2 ∧ x / 2 ^ sh = y / 2 ^ sh := by
  rw [fromMaxdepthRanges_eq_all]
  refine ⟨(normalize_spec _).1, fun x => ?_⟩
  rw [(normalize_spec _).2, mem_map_degradeRange sh _ (lt_of_mem_filter_lt rs)]
  exact exists_mem_filter_nonempty rs

/-- A point is covered iff it shares its cell of the builder depth (`· / 2 ^ sh`) with a point of a pushed range;
    `hr` is not needed (`rangeBuilder_sem_all`). -/
theorem rangeBuilder_sem (sh cap : Nat) (rs : List Rng) (hr : ∀ r ∈ rs, r.1 < r.2) :
    Canon (fromMaxdepthRanges sh cap rs) ∧
    ∀ x, mem x (fromMaxdepthRanges sh cap rs) ↔ ∃ r ∈ rs, ∃ y, r.1 ≤ y ∧ y < r.2 ∧ x / 2 ^ sh = y / 2 ^ sh :=
  rangeBuilder_sem_all sh cap rs

/-- Two sequences of ranges covering the same points give the same MOC, whatever the order, the duplicates, the
    overlaps and the two capacities. -/
theorem rangeBuilder_perm (sh cap cap' : Nat) (a b : List Rng) (ha : ∀ r ∈ a, r.1 < r.2) (hb : ∀ r ∈ b, r.1 < r.2)
    (h : ∀ y, mem y a ↔ mem y b) : fromMaxdepthRanges sh cap a = fromMaxdepthRanges sh cap' b := by
  have sa := rangeBuilder_sem sh cap a ha
  have sb := rangeBuilder_sem sh cap' b hb
  refine Canon.ext sa.1 sb.1 fun x => ?_
  rw [sa.2, sb.2, exists_mem_range, exists_mem_range]
  exact exists_congr fun y => and_congr_left' (h y)

/-- `from_cells`: the cells, given as pairs `(shift, idx)` of the shift of their own depth and their index, are
    pushed as the ranges `[idx <<< shift, (idx + 1) <<< shift)`; the result covers exactly the cells of the
    builder depth meeting one of the given cells. -/
theorem fromCells_sem (sh cap : Nat) (cells : List (Nat × Nat)) (x : Nat) :
    mem x (fromCells sh cap cells) ↔
      ∃ c ∈ cells, ∃ y, c.2 <<< c.1 ≤ y ∧ y < (c.2 + 1) <<< c.1 ∧ x / 2 ^ sh = y / 2 ^ sh := by
  unfold fromCells
  rw [(rangeBuilder_sem_all sh cap _).2, exists_mem_map]

/-- **N-ary operators** (`kway_or/and/xor` and `_it` variants): for every list of canonical MOCs — of
    ANY length, so whatever the 4-by-4 grouping and its recursion do — the result is the left fold of
    the binary operator (empty list ↦ `(0, ∅)`, one element ↦ itself). -/
theorem kwayOr_eq_fold (l : List DMoc) (hl : ∀ m ∈ l, Canon m.2) : kway opOr l = foldOp opOr l :=
  kway_of_spec union_spec (fun _ _ _ => or_assoc) l hl
theorem kwayAnd_eq_fold (l : List DMoc) (hl : ∀ m ∈ l, Canon m.2) : kway opAnd l = foldOp opAnd l :=
  kway_of_spec intersection_spec (fun _ _ _ => and_assoc) l hl
theorem kwayXor_eq_fold (l : List DMoc) (hl : ∀ m ∈ l, Canon m.2) : kway opXor l = foldOp opXor l :=
  kway_of_spec (c := fun p q => p ↔ ¬ q) (fun l r => xorLoop_spec l r 0) iff_not_assoc l hl

/-! Non-vacuity -/
example : ∀ m ∈ ([(2, [(0, 4)]), (1, [(8, 12)]), (3, [(2, 9)]), (0, []), (2, [(0, 16)])] : List DMoc), Canon m.2 := by decide
example : cellsToRanges 2 [0, 1, 2, 2, 5] = [(0, 12), (20, 24)] := by decide
example : ∀ r ∈ ([(9, 10), (1, 3), (2, 6), (30, 31)] : List Rng), r.1 < r.2 := by decide

end Moc.C06
