/-
  C18 — physical quantities map to MOC indices monotonically and invertibly.
  The constants are the ones extracted from `src/qty.rs` (`Model/Params.lean`): changing the exponent
  window or one of the two biases in the source breaks these proofs.
-/
import MocVerif.Lemmas.Freq
import MocVerif.Lemmas.Cells
import MocVerif.Props.C06

namespace Moc.C18

theorem two52_pos : 0 < two52 := Nat.two_pow_pos 52

/-- On accepted values the index is `bits − bias·2^52`. -/
theorem freqHash64_eq (b : Nat) (hv : freqValid b = true) :
    freqHash64 b + Params.freqBiasEnc * two52 = b :=
  freqHash64_add b hv

/-- **Strictly increasing** over the whole supported interval (64-bit indices). -/
theorem freq_strict_mono (b1 b2 : Nat) (h1 : freqValid b1 = true) (h2 : freqValid b2 = true) (h : b1 < b2) :
    freqHash64 b1 < freqHash64 b2 := by
  rw [← freqHash64_eq b1 h1, ← freqHash64_eq b2 h2] at h
  exact Nat.lt_of_add_lt_add_right h

/-- With 64-bit indices `freq2hash` never wraps: the index of an accepted pattern lies inside the frequency domain
    `[0, n_cells_max)`. -/
theorem freq_in_domain (b : Nat) (hv : freqValid b = true) : freqHash64 b < Params.freq.nCellsMax 64 := by
  have h := ((freqValid_iff b).1 hv).2
  rw [← freqHash64_eq b hv, Nat.add_mul, Nat.add_comm _ (256 * two52)] at h
  have hn : Params.freq.nCellsMax 64 = 256 * two52 := by decide
  rw [hn]
  exact Nat.lt_of_add_lt_add_right h

theorem freq_rejects (w b : Nat) (hv : freqValid b = false) : freq2hash w b = none :=
  if_neg (Bool.eq_false_iff.1 hv)

/-- The inverse is the same affine map read backwards: on every index of the frequency domain
    (exponent part ≤ 256) `hash2freq` returns `h + bias·2^52`. -/
theorem hash2freq_eq (h : Nat) (hh : h / two52 ≤ 256) :
    hash2freq 64 h = some (h + Params.freqBiasDec * two52) := by
  have hm := Nat.div_add_mod h two52
  simp only [hash2freq, widen, Nat.sub_self, Nat.shiftLeft_zero, hh, if_true]
  rw [Nat.add_mul, Nat.mul_comm (h / two52), Nat.add_right_comm, hm]

/-- **The inverse returns the original value bit-for-bit** (64-bit indices). -/
theorem freq_roundtrip (b : Nat) (hv : freqValid b = true) : hash2freq 64 (freqHash64 b) = some b := by
  have hd : freqHash64 b < 256 * two52 := freq_in_domain b hv
  rw [hash2freq_eq _ (Nat.le_of_lt ((Nat.div_lt_iff_lt_mul two52_pos).2 hd))]
  -- the decoding bias is the encoding bias
  exact congrArg some (freqHash64_eq b hv)

/-- Narrower index types: the map stays (weakly) monotone. -/
theorem freq_mono_narrow (w b1 b2 : Nat) (h1 : freqValid b1 = true) (h2 : freqValid b2 = true) (h : b1 ≤ b2) :
    ∃ x y, freq2hash w b1 = some x ∧ freq2hash w b2 = some y ∧ x ≤ y := by
  refine ⟨_, _, freq2hash_of_valid w h1, freq2hash_of_valid w h2, ?_⟩
  rw [← freqHash64_eq b1 h1, ← freqHash64_eq b2 h2] at h
  rw [narrow_eq, narrow_eq]
  exact Nat.div_le_div_right (Nat.le_of_add_le_add_right h)

/-- **F-MOC from values**: contains exactly the depth-`d` cells containing the (accepted) values —
    for every list of values, order and buffer capacity. -/
theorem fmoc_contains_exactly (w sh cap : Nat) (bs : List Nat) (x : Nat) :
    mem x (fromFreqBits w sh cap bs) ↔ ∃ b ∈ bs, ∃ h, freq2hash w b = some h ∧ x / 2 ^ sh = h >>> sh := by
  rw [fromFreqBits, (C06.build_sem sh cap _).2, List.mem_filterMap]
  exact exists_congr fun b => and_congr_right fun _ =>
    Option.map_eq_some_iff.trans (exists_congr fun h => and_congr_right fun _ => eq_comm)

/-- **T-MOC from microsecond timestamps**: contains exactly the depth-`d` cells of those instants,
    for every index width. -/
theorem tmoc_contains_exactly (w sh cap : Nat) (ts : List Nat) (x : Nat) :
    mem x (fromMicrosec w sh cap ts) ↔ ∃ t ∈ ts, x / 2 ^ sh = (narrow (64 - w) t) >>> sh := by
  rw [fromMicrosec, (C06.build_sem sh cap _).2, List.mem_map]
  exact exists_congr fun t => and_congr_right fun _ => eq_comm

/-- **T-MOC from microsecond ranges**: contains exactly the depth-`d` cells of the instants of the
    (non-empty, half-open) ranges, for every index width — in particular the instants of the last,
    partially covered, cell of the narrower type. -/
theorem tmoc_ranges_core (w sh cap : Nat) (rs : List Rng) (hr : ∀ r ∈ rs, r.1 < r.2) (x : Nat) :
    mem x (fromMaxdepthRanges sh cap (rs.map fun r => (narrow (64 - w) r.1, narrowUp (64 - w) r.2))) ↔
      ∃ r ∈ rs, ∃ t, r.1 ≤ t ∧ t < r.2 ∧ x / 2 ^ sh = (narrow (64 - w) t) >>> sh := by
  rw [(C06.rangeBuilder_sem_all sh cap _).2, exists_mem_map]
  simp only [Nat.shiftRight_eq_div_pow]
  exact exists_congr fun r => and_congr_right fun hr' =>
    narrow_interval _ _ _ (hr r hr') fun y => x / 2 ^ sh = y / 2 ^ sh

/-- **Every list of ranges, empty ones included** (`tmin = tmax`: no instant, hence no cell — whatever the
    alignment of the bound and the index width; /repo "fix: RangeMocBuilder kept empty input ranges"). -/
theorem tmoc_ranges_contains_exactly (w sh cap : Nat) (rs : List Rng) (x : Nat) :
    mem x (fromMicrosecRanges w sh cap rs) ↔
      ∃ r ∈ rs, ∃ t, r.1 ≤ t ∧ t < r.2 ∧ x / 2 ^ sh = (narrow (64 - w) t) >>> sh := by
  rw [fromMicrosecRanges, tmoc_ranges_core w sh cap _ (lt_of_mem_filter_lt rs)]
  exact exists_mem_filter_nonempty rs

/-- **F-MOC from hertz ranges**: for accepted bounds `f1 < f2` (bit patterns `r.1 < r.2`) the MOC contains
    exactly the depth-`d` cells containing a value of `[f1, f2)`, for every index width. -/
theorem fmoc_ranges_core (w sh cap : Nat) (rs : List Rng)
    (hr : ∀ r ∈ rs, r.1 < r.2 ∧ freqValid r.1 = true ∧ freqValid r.2 = true) (x : Nat) :
    mem x (fromMaxdepthRanges sh cap (rs.filterMap (freqRangeIdx w))) ↔
      ∃ r ∈ rs, ∃ b, r.1 ≤ b ∧ b < r.2 ∧ ∃ h, freq2hash w b = some h ∧ x / 2 ^ sh = h >>> sh := by
  -- the index ranges are those of the T-MOC builder on the ranges of 64-bit indices
  have hfm : rs.filterMap (freqRangeIdx w) = (rs.map fun r => (freqHash64 r.1, freqHash64 r.2)).map
      fun r => (narrow (64 - w) r.1, narrowUp (64 - w) r.2) := by
    rw [List.map_map]
    exact filterMap_eq_map _ _ rs fun r hr' => freqRangeIdx_of_valid w (hr r hr').2.1 (hr r hr').2.2
  rw [hfm, tmoc_ranges_core w sh cap _ fun q hq => by
    obtain ⟨r, hr', rfl⟩ := List.mem_map.1 hq
    exact freq_strict_mono _ _ (hr r hr').2.1 (hr r hr').2.2 (hr r hr').1, exists_mem_map]
  exact exists_congr fun r => and_congr_right fun hr' =>
    freq_interval w _ _ (hr r hr').2.1 (hr r hr').2.2 fun h => x / 2 ^ sh = h >>> sh

/-- **Every list of accepted hertz ranges, empty ones included** (`f1 = f2`, or reversed bounds: no value, no
    cell). -/
theorem fmoc_ranges_contains_exactly (w sh cap : Nat) (rs : List Rng)
    (hr : ∀ r ∈ rs, freqValid r.1 = true ∧ freqValid r.2 = true) (x : Nat) :
    mem x (fromFreqRangeBits w sh cap rs) ↔
      ∃ r ∈ rs, ∃ b, r.1 ≤ b ∧ b < r.2 ∧ ∃ h, freq2hash w b = some h ∧ x / 2 ^ sh = h >>> sh := by
  rw [fromFreqRangeBits, fmoc_ranges_core w sh cap _ fun r h =>
    ⟨lt_of_mem_filter_lt rs r h, hr r (List.mem_filter.1 h).1⟩]
  exact exists_mem_filter_nonempty rs

/-- A wider index type covers the same physical interval: widening an index and dropping the added
    bits gives the index back (hence the same microsecond / hash values are covered). -/
theorem widen_same_interval (k x : Nat) : narrow k (widen k x) = x := narrow_widen k x

/-- **Back to hertz**: the hertz range of the depth-`d` cell containing an accepted value ENCLOSES
    the value — lower bound `≤` value `<` upper bound (as bit patterns, i.e. as doubles), for every
    shift `sh` (every depth), whenever the cell end is still an index of the domain. -/
theorem hz_range_encloses (b sh : Nat) (hv : freqValid b = true)
    (hend : ((freqHash64 b >>> sh) + 1) <<< sh / two52 ≤ 256) :
    ∃ lo hi, hash2freq 64 ((freqHash64 b >>> sh) <<< sh) = some lo ∧
      hash2freq 64 (((freqHash64 b >>> sh) + 1) <<< sh) = some hi ∧ lo ≤ b ∧ b < hi := by
  have e : freqHash64 b + Params.freqBiasDec * two52 = b := freqHash64_eq b hv
  have ⟨hlo, hhi⟩ := shr_shl_le_lt sh (freqHash64 b)
  exact ⟨_, _, hash2freq_eq _ (Nat.le_trans (Nat.div_le_div_right (Nat.le_trans hlo (Nat.le_of_lt hhi))) hend),
    hash2freq_eq _ hend, Nat.le_trans (Nat.add_le_add_right hlo _) (Nat.le_of_eq e),
    Nat.lt_of_le_of_lt (Nat.le_of_eq e.symm) (Nat.add_lt_add_right hhi _)⟩

/-! Non-vacuity -/
example : freqValid (1000 * 2 ^ 52 + 12345) = true := by decide
example : freqValid (928 * 2 ^ 52) = false ∧ freqValid (1185 * 2 ^ 52) = false := by decide

end Moc.C18
