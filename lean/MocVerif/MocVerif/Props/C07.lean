/-
  C07 — 1-D MOC serialisation round-trips: ASCII and JSON (tokens, then characters), the FITS range and NUNIQ
  files (header cards, data unit, padding).

  Proved on the codec model (`Model/Codec.lean`: tokens, characters, words; the NUNIQ numbers are those of
  `Model/Cells.lean`) and, for the whole FITS file,
  on the writer of `Model/Fits.lean` and the header reader of `Model/FitsRead.lean`.
  Partial: fold widths, `start+len` notation, the JSON reader (serde_json), the streaming ASCII variant and what
  the FITS header reader checks beyond extracting values (order of the mandatory cards, unknown values) are
  exercised by the correspondence run on real bytes (the real reader against the model reader on folded / offset
  documents; direct round trips), not proved.
-/
import MocVerif.Lemmas.Codec
import MocVerif.Lemmas.CodecMoc
import MocVerif.Lemmas.Text
import MocVerif.Lemmas.Fits
import MocVerif.Lemmas.FitsRead
import MocVerif.Props.C05

namespace Moc.Codec.C07
open Moc Moc.Codec

def Disjoint (a b : Rng) : Prop := a.2 ≤ b.1 ∨ b.2 ≤ a.1

theorem disjoint_symm {a b : Rng} (h : Disjoint a b) : Disjoint b a := h.symm

theorem adjOverlap_of_pairwise : ∀ (l : List Rng), l.Pairwise Disjoint → adjOverlap l = false :=
  adjOverlap_of_disjoint

theorem mem_perm {l l' : List Rng} (p : l.Perm l') (x : Nat) : mem x l ↔ mem x l' := mem_of_perm p x

theorem finish_spec (q : Qty) (w d : Nat) (l : List Item)
    (hdis : (l.map (rangeOfItem q w)).Pairwise Disjoint) :
    finish q w (d, l) = .ok (d, normalize (l.map (rangeOfItem q w))) :=
  finish_ok q w d l hdis

/-- **ASCII round trip (token level)**: reading what the writer emits gives back the declared depth and the
    canonical MOC covering exactly the union of the elements, in whatever order they are given. -/
theorem ascii_roundtrip (q : Qty) (w dmax : Nat) (items : List Item)
    (hmax : dmax ≤ q.maxDepth w ∧ dmax ≤ 255) (hok : ∀ it ∈ items, ItemOk q w it ∧ it.d ≤ dmax)
    (hdis : (items.map (rangeOfItem q w)).Pairwise Disjoint) :
    decodeToks q w (encodeToks dmax items) = .ok (dmax, normalize (items.map (rangeOfItem q w))) :=
  decodeToks_encodeToks q w dmax items hmax hok hdis

theorem ordCR_mem (q : Qty) (w d : Nat) : ∀ (cs : List CellRange) (lo hi : Nat), OrdCR q w d lo hi cs →
    ∀ c ∈ cs, c.1 ≤ d ∧ c.2.1 < c.2.2 ∧ (rangeOfCellRange q w c).2 ≤ hi :=
  fun _ _ _ h c hc => have m := h.spec.2 c hc; ⟨m.1, m.2.1, m.2.2.2⟩

/-- **ASCII round trip, end to end (token level)**: for every valid MOC `M` of depth `d` (empty and full-domain
    MOCs and unoccupied deepest levels included) the reader applied to what the writer emits for the cell-range
    view of `M` returns exactly `(d, M)`. -/
theorem ascii_roundtrip_moc (q : Qty) (hq : q.dim = 1 ∨ q.dim = 2) (w d : Nat)
    (hd : d ≤ q.maxDepth w) (hd255 : d ≤ 255) (l : List Rng) (hv : Valid q w d l) :
    decodeToks q w (encodeToks d (itemsOf q w d l)) = .ok (d, l) := by
  have oc := ordCells_of_valid q hq w d hd l hv
  refine roundtrip_of_ordCR q w d hd hd255 l hv.1 _ (ordCR_cellRangesOf q w d _ 0 _ oc) fun x => ?_
  rw [mem_cellRangesOf]
  exact Moc.C05.cells_cover q hq w d hd l hv x

/-- **JSON round trip, end to end (token level)**: the Aladin JSON document is the same token stream restricted
    to single cells (`"depth": [idx, …]` per depth, the deepest depth always present). -/
theorem json_roundtrip_moc (q : Qty) (hq : q.dim = 1 ∨ q.dim = 2) (w d : Nat)
    (hd : d ≤ q.maxDepth w) (hd255 : d ≤ 255) (l : List Rng) (hv : Valid q w d l) :
    decodeToks q w (encodeToks d (cellItemsOf q w d l)) = .ok (d, l) := by
  have oc := ordCells_of_valid q hq w d hd l hv
  have e : cellItemsOf q w d l = ((cellsOf q w d l).map unitCR).map fun c => ⟨c.1, c.2.1, c.2.2⟩ := by
    rw [List.map_map]; rfl
  rw [e]
  refine roundtrip_of_ordCR q w d hd hd255 l hv.1 _ (ordCR_of_ordCells q w d _ 0 _ oc) fun x => ?_
  rw [List.map_map]
  exact Moc.C05.cells_cover q hq w d hd l hv x

/-! ### Character level -/

theorem mem_encodeFrom (items : List Item) (dmax : Nat) (t : Tok) (n d : Nat) (h : t ∈ encodeFrom items dmax d n) :
    (∃ d', t = .depth d' ∧ d' < d + n) ∨ ∃ it ∈ items, t = itemTok it := by
  fun_induction encodeFrom items dmax d n with
  | case1 => cases h
  | case2 d n b ih =>
    rcases List.mem_append.1 h with h | h
    · split at h
      · cases h
      · rcases List.mem_cons.1 h with rfl | h
        · exact .inl ⟨d, rfl, by omega⟩
        · obtain ⟨it, hit, rfl⟩ := List.mem_map.1 h
          exact .inr ⟨it, (mem_bucket.1 hit).1, rfl⟩
    · exact (ih h).imp (fun ⟨d', e, hd⟩ => ⟨d', e, by omega⟩) id

theorem encodeToks_tokOk (w dmax : Nat) (items : List Item) (hd : dmax < 2 ^ w)
    (hit : ∀ it ∈ items, it.s < it.e ∧ it.e < 2 ^ w) : ∀ t ∈ encodeToks dmax items, TokOk w t := by
  intro t ht
  cases mem_encodeFrom items dmax t (dmax + 1) 0 ht with
  | inl h => obtain ⟨d', rfl, hd'⟩ := h; simp only [TokOk]; omega
  | inr h =>
    obtain ⟨it, hm, rfl⟩ := h
    have := hit it hm
    fun_cases itemTok it with
    | case1 => simp only [TokOk]; omega
    | case2 => exact this

theorem depth_mem_encodeFrom (items : List Item) (dmax : Nat) (n d : Nat) (h1 : d ≤ dmax) (h2 : dmax < d + n) :
    Tok.depth dmax ∈ encodeFrom items dmax d n := by
  fun_induction encodeFrom items dmax d n with
  | case1 => omega
  | case2 d n b ih =>
    rw [List.mem_append]
    by_cases hd : d = dmax
    · subst hd
      left
      simp
    · exact .inr (ih (by omega) (by omega))

theorem encodeToks_ne_nil (dmax : Nat) (items : List Item) : encodeToks dmax items ≠ [] := by
  intro h
  have := depth_mem_encodeFrom items dmax (dmax + 1) 0 (Nat.zero_le _) (by omega)
  unfold encodeToks at h
  rw [h] at this
  cases this

/-- **The lexer inverts the writer, character by character** (decimal printing / parsing, separators, the
    trailing blank after a bare `dmax/`) when the numbers fit the index type: the text-level reader is the
    token-level reader composed with the writer. -/
theorem ascii_text_lex (q : Qty) (w dmax : Nat) (items : List Item) (hd : dmax < 2 ^ w)
    (hit : ∀ it ∈ items, it.s < it.e ∧ it.e < 2 ^ w) :
    decodeAscii q w (encodeChars dmax items) = decodeToks q w (encodeToks dmax items) := by
  obtain ⟨tail, ht, e⟩ : ∃ tail, AllSpace tail ∧ encodeChars dmax items = showToks (encodeToks dmax items) ++ tail := by
    unfold showToks
    fun_cases encodeChars dmax items with
    | case1 => exact ⟨[' '], all_cons (by decide) all_nil, rfl⟩
    | case2 => exact ⟨[], all_nil, (List.append_nil _).symm⟩
  rw [e, decodeAscii_showToks q w (encodeToks_ne_nil dmax items) (encodeToks_tokOk w dmax items hd hit) ht]

/-- **ASCII round trip at the character level**: `ascii_text_lex` composed with `ascii_roundtrip`. -/
theorem ascii_text_roundtrip (q : Qty) (w dmax : Nat) (items : List Item)
    (hmax : dmax ≤ q.maxDepth w ∧ dmax ≤ 255) (hok : ∀ it ∈ items, ItemOk q w it ∧ it.d ≤ dmax)
    (hdis : (items.map (rangeOfItem q w)).Pairwise Disjoint)
    (hw : dmax < 2 ^ w) (hfit : ∀ it ∈ items, it.e < 2 ^ w) :
    decodeAscii q w (encodeChars dmax items) = .ok (dmax, normalize (items.map (rangeOfItem q w))) := by
  rw [ascii_text_lex q w dmax items hw (fun it h => ⟨(hok it h).1.2.2.1, hfit it h⟩)]
  exact ascii_roundtrip q w dmax items hmax hok hdis

theorem itemsOf_ok (q : Qty) (hq : q.dim = 1 ∨ q.dim = 2) (w d : Nat)
    (hd : d ≤ q.maxDepth w) (hd255 : d ≤ 255) (l : List Rng) (hv : Valid q w d l) :
    ∀ it ∈ itemsOf q w d l, ItemOk q w it ∧ it.d ≤ d :=
  ordCR_items_ok q w d hd hd255 _ 0 (ordCR_cellRangesOf q w d _ 0 _
    (ordCells_of_valid q hq w d hd l hv))

theorem nCells_mono (q : Qty) {a b : Nat} (h : a ≤ b) : q.nCells a ≤ q.nCells b := Codec.nCells_mono q h

/-- **ASCII round trip, end to end, at the character level**: for every valid MOC `M` of depth `d` whose cell
    numbers fit the index type (`n_cells(d) < 2^w`: true of the three quantities on u16 / u32 / u64,
    `fit_instances`), reading the characters the writer emits for `M` returns exactly `(d, M)`. -/
theorem ascii_text_roundtrip_moc (q : Qty) (hq : q.dim = 1 ∨ q.dim = 2) (w d : Nat)
    (hd : d ≤ q.maxDepth w) (hd255 : d ≤ 255) (hfit : q.nCells d < 2 ^ w) (hw : d < 2 ^ w)
    (l : List Rng) (hv : Valid q w d l) :
    decodeAscii q w (encodeChars d (itemsOf q w d l)) = .ok (d, l) := by
  have hok := itemsOf_ok q hq w d hd hd255 l hv
  rw [ascii_text_lex q w d _ hw fun it h => (hok it h).1.fits (hok it h).2 hfit]
  exact ascii_roundtrip_moc q hq w d hd hd255 l hv

theorem fit_of_max (q : Qty) (w : Nat) (h : q.nCells (q.maxDepth w) < 2 ^ w) :
    ∀ d ≤ q.maxDepth w, q.nCells d < 2 ^ w :=
  fun _ hd => Nat.lt_of_le_of_lt (Codec.nCells_mono q hd) h

/-- The index types of the library satisfy the fit hypothesis at every depth they support. -/
theorem fit_instances :
    (∀ d ≤ Params.hpx.maxDepth 16, Params.hpx.nCells d < 2 ^ 16) ∧
    (∀ d ≤ Params.hpx.maxDepth 32, Params.hpx.nCells d < 2 ^ 32) ∧
    (∀ d ≤ Params.hpx.maxDepth 64, Params.hpx.nCells d < 2 ^ 64) ∧
    (∀ d ≤ Params.time.maxDepth 16, Params.time.nCells d < 2 ^ 16) ∧
    (∀ d ≤ Params.time.maxDepth 32, Params.time.nCells d < 2 ^ 32) ∧
    (∀ d ≤ Params.time.maxDepth 64, Params.time.nCells d < 2 ^ 64) ∧
    (∀ d ≤ Params.freq.maxDepth 16, Params.freq.nCells d < 2 ^ 16) ∧
    (∀ d ≤ Params.freq.maxDepth 32, Params.freq.nCells d < 2 ^ 32) ∧
    (∀ d ≤ Params.freq.maxDepth 64, Params.freq.nCells d < 2 ^ 64) :=
  ⟨fit_of_max _ _ (by decide), fit_of_max _ _ (by decide), fit_of_max _ _ (by decide),
   fit_of_max _ _ (by decide), fit_of_max _ _ (by decide), fit_of_max _ _ (by decide),
   fit_of_max _ _ (by decide), fit_of_max _ _ (by decide), fit_of_max _ _ (by decide)⟩

/-- The empty MOC keeps its depth: the writer emits the bare `dmax/` token. -/
theorem ascii_roundtrip_empty (q : Qty) (w dmax : Nat) (hmax : dmax ≤ q.maxDepth w ∧ dmax ≤ 255) :
    decodeToks q w (encodeToks dmax []) = .ok (dmax, []) :=
  ascii_roundtrip q w dmax [] hmax (fun _ h => nomatch h) .nil

/-! ### FITS payload -/

theorem toBE_length (n x : Nat) : (toBE n x).length = n := Moc.Fits.toBE_len n x

theorem fromBE_append (a : List Nat) (b : Nat) : fromBE (a ++ [b]) = fromBE a * 256 + b := Moc.Fits.fromBE_snoc a b

theorem be_roundtrip (n x : Nat) (h : x < 256 ^ n) : fromBE (toBE n x) = x := Moc.Fits.fromBE_toBE n x h

theorem toBE_bytes (n x : Nat) : ∀ b ∈ toBE n x, b < 256 := by
  fun_induction toBE n x with
  | case1 => exact all_nil
  | case2 n x ih => exact all_append ih (all_cons (Nat.mod_lt _ (by decide)) all_nil)

theorem words_roundtrip (rs : List Rng) : decodeWords (encodeWords rs) = rs := Moc.Fits.decodeWords_encodeWords rs

theorem words_length (rs : List Rng) : (encodeWords rs).length = 2 * rs.length := Moc.Fits.encodeWords_length rs

theorem padding_spec (n : Nat) : (n + padding n) % 2880 = 0 ∧ padding n < 2880 :=
  ⟨Moc.Fits.padding_mod n,
   iteInduction (motive := (· < 2880)) (fun _ => by decide) fun h => Nat.sub_lt (by decide) (Nat.pos_of_ne_zero h)⟩

/-! ### The whole FITS file -/
section FitsFile
open Moc.Fits

/-- The block and card sizes of the file model are the ones extracted from `src/deser/fits` (`Model/Params.lean`). -/
theorem fits_constants :
    Params.fitsBlock = 2880 ∧ Params.fitsCard = 80 ∧ Params.fitsPadTo = 2880 ∧
    (∀ cards, block cards = pad Params.fitsBlock cards.flatten) ∧ endCard.length = Params.fitsCard := by
  refine ⟨by decide, by decide, by decide, fun _ => rfl, endCard_length⟩

/-- **Emitted FITS is made of 2880-byte blocks**: two header blocks, the data unit, its zero padding. -/
theorem fits_file_blocks (q : Qty) (w depth : Nat) (rs : List Rng) (hd : depth ≤ 255)
    (hw : w / 8 < 10 ^ 20) (hn : rs.length <<< 1 < 10 ^ 20) :
    (rangeFile q w depth rs).length % 2880 = 0 :=
  fileOf_blocks (mocCards_ok q w depth hd) hw (encodeWords_length_shift rs ▸ hn)

/-- **Declared row width and row count equal the data actually written, and the data are read back**: `NAXIS1`
    and `NAXIS2` parsed from the file are the index width in bytes and twice the number of ranges; their product
    is the number of data bytes written before the padding; and these bytes decode (big-endian words,
    `(start, end)` pairs) to exactly the ranges of the MOC. -/
theorem fits_file_structure (q : Qty) (w depth : Nat) (rs : List Rng) (hd : depth ≤ 255)
    (hw : w / 8 < 10 ^ 20) (hn : rs.length <<< 1 < 10 ^ 20)
    (hfit : ∀ r ∈ rs, r.1 < 256 ^ (w / 8) ∧ r.2 < 256 ^ (w / 8)) :
    readStructure (rangeFile q w depth rs) = some (w / 8, rs.length <<< 1, rs) ∧
    (w / 8) * (rs.length <<< 1) = (dataUnit w rs).length :=
  ⟨(fileOf_ranges (mocCards_ok q w depth hd) hw hn hfit).2,
   by rw [dataUnit_length, ← encodeWords_length, encodeWords_length_shift]⟩

/-- **With the optional `MOCID` / `MOCTYPE` cards** (values of at most 68 characters: what fits a card) the
    file is still made of 2880-byte blocks and its data are read back. -/
theorem fits_file_with_id (q : Qty) (w depth : Nat) (id ty : Option (List Char)) (rs : List Rng) (hd : depth ≤ 255)
    (hid : ∀ v, id = some v → v.length ≤ 68) (hty : ∀ v, ty = some v → v.length ≤ 68)
    (hw : w / 8 < 10 ^ 20) (hn : rs.length <<< 1 < 10 ^ 20)
    (hfit : ∀ r ∈ rs, r.1 < 256 ^ (w / 8) ∧ r.2 < 256 ^ (w / 8)) :
    (rangeFileWith q w depth id ty rs).length % 2880 = 0 ∧
    readStructure (rangeFileWith q w depth id ty rs) = some (w / 8, rs.length <<< 1, rs) :=
  fileOf_ranges (mocCardsWith_ok q w depth id ty hd hid hty) hw hn hfit

/-- **The NUNIQ file**: 2880-byte blocks, `NAXIS2` = the number of cells, and the NUNIQ numbers are read back from
    the `NAXIS1 × NAXIS2` data bytes. -/
theorem fits_nuniq_file (w depth : Nat) (uniqs : List Nat) (hd : depth ≤ 255)
    (hw : w / 8 < 10 ^ 20) (hn : uniqs.length < 10 ^ 20) (hfit : ∀ x ∈ uniqs, x < 256 ^ (w / 8)) :
    (nuniqFile w depth uniqs).length % 2880 = 0 ∧
    readWords (nuniqFile w depth uniqs) = some (w / 8, uniqs.length, uniqs) :=
  ⟨fileOf_blocks (nuniqCards_ok w depth hd) hw hn, fileOf_words (nuniqCards_ok w depth hd) hw hn hfit⟩

/-- The dimension name written in `MOCDIM` for each quantity. -/
def dimOf (q : Qty) : List Char :=
  if q.name == "HPX" then ['S', 'P', 'A', 'C', 'E'] else if q.name == "TIME" then ['T', 'I', 'M', 'E']
  else ['F', 'R', 'E', 'Q', 'U', 'E', 'N', 'C', 'Y']

/-- **The FITS file read back, header included**: the values the reader extracts from the table header of the
    file written — `NAXIS1`, `NAXIS2`, `MOCDIM`, `ORDERING`, the depth card of the dimension (`MOCORD_S|T|F`),
    `TFORM1` — are the ones of the MOC, and the data bytes decode to exactly its ranges: same quantity, same
    maximum depth, same set. -/
theorem fits_file_roundtrip (q : Qty) (hq : q = Params.hpx ∨ q = Params.time ∨ q = Params.freq) (w depth : Nat)
    (rs : List Rng) (hd : depth ≤ 255) (hw : w / 8 < 10 ^ 20) (hn : rs.length <<< 1 < 10 ^ 20)
    (hfit : ∀ r ∈ rs, r.1 < 256 ^ (w / 8) ∧ r.2 < 256 ^ (w / 8)) :
    decodeRangeFile (rangeFile q w depth rs) =
      some ({ naxis1 := w / 8, naxis2 := rs.length <<< 1, dim := dimOf q, ordering := ['R', 'A', 'N', 'G', 'E'],
              depth := depth, tform := tform w }, rs) := by
  have hb := (rangeFile_parts q w depth rs hd hw hn).1
  exact decodeRangeFile_of (hb ▸ decodeHdr_tableCards q w depth rs.length hd hw hn)
    (fileOf_ranges (mocCards_ok q w depth hd) hw hn hfit).2

/-- Non-vacuity: the hypotheses hold for an S-MOC on 16 bits. -/
example : readStructure (rangeFile Params.hpx 16 4 [(16, 96), (112, 128)]) = some (2, 4, [(16, 96), (112, 128)]) :=
  (fits_file_structure Params.hpx 16 4 [(16, 96), (112, 128)] (by decide) (by decide) (by decide)
    (by intro r hr; simp only [List.mem_cons, List.not_mem_nil, or_false] at hr; rcases hr with rfl | rfl <;> decide)).1

end FitsFile

theorem nuniq_row_roundtrip (d i : Nat) (hi : i < 12 * 4 ^ d) : fromUniqHpx (uniqHpx d i) = (d, i) :=
  C05.nuniq_decode_encode d i hi

/-- NUNIQ column, whole file.  The reader then only re-sorts the cells in flat order; which cells they are is
    decided here. -/
theorem nuniq_column_roundtrip (cells : List Cell) (h : ∀ c ∈ cells, c.2 < 12 * 4 ^ c.1) :
    (cells.map fun c => uniqHpx c.1 c.2).map fromUniqHpx = cells := by
  induction cells with
  | nil => rfl
  | cons c t ih =>
    simp only [List.map_cons]
    rw [ih (fun x hx => h x (List.mem_cons_of_mem _ hx)),
      C05.nuniq_decode_encode c.1 c.2 (h c List.mem_cons_self)]

/-! Non-vacuity: a two-depth MOC with an unoccupied deepest level. -/
example : encodeToks 3 [⟨1, 2, 3⟩, ⟨2, 0, 5⟩] = [.depth 1, .cell 2, .depth 2, .range 0 5, .depth 3] := by decide

/-- **The NUNIQ file read back as cells**: the file written for the cell view of an S-MOC (one NUNIQ number per
    row) declares one row per cell, and the numbers read from its data bytes decode (`from_uniq_hpx`) to exactly
    the cells. -/
theorem fits_nuniq_file_cells (w depth : Nat) (cells : List Cell) (hd : depth ≤ 255) (hw : w / 8 < 10 ^ 20)
    (hn : cells.length < 10 ^ 20) (hdom : ∀ c ∈ cells, c.2 < 12 * 4 ^ c.1)
    (hfit : ∀ c ∈ cells, uniqHpx c.1 c.2 < 256 ^ (w / 8)) :
    (Moc.Fits.readWords (Moc.Fits.nuniqFile w depth (cells.map fun c => uniqHpx c.1 c.2))).map
      (fun x => (x.1, x.2.1, x.2.2.map fromUniqHpx)) = some (w / 8, cells.length, cells) := by
  rw [(fits_nuniq_file w depth _ hd hw (by rw [List.length_map]; exact hn) (List.forall_mem_map.2 hfit)).2]
  simp only [Option.map_some, List.length_map, nuniq_column_roundtrip cells hdom]

end Moc.Codec.C07
