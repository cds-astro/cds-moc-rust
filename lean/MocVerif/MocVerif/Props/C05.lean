/-
  C05 — changes of representation are lossless and yield the unique normal form.

  Proved: the numbering schemes (NUNIQ, generic uniq, z-order uniq) are bijections with the documented order
  for ALL depths and indices; width widening/narrowing is lossless; each greedy step of the cell view
  returns a legal, aligned cell covering exactly the head of the range; the cell view, the cell-range view
  and the flat cells of a whole valid MOC cover exactly the MOC, and the first two read back to the same ranges; the cells
  are the maximal aligned cells inside the MOC, and the NUNIQ iterator emits the same cells — see DESIGN.md §10.
-/
import MocVerif.Model.Params
import MocVerif.Lemmas.Valid
import MocVerif.Lemmas.CellRanges
import MocVerif.Lemmas.CellMax
import MocVerif.Lemmas.UniqIter

namespace Moc.C05

/-- NUNIQ: `from_uniq_hpx ∘ uniq_hpx = id` for every depth (not only "depths < 8") and index. -/
theorem nuniq_decode_encode (d i : Nat) (hi : i < 12 * 4 ^ d) : fromUniqHpx (uniqHpx d i) = (d, i) := by
  have hd : (Nat.log2 (uniqHpx d i) - 2) >>> 1 = d := by
    rw [Nat.shiftRight_eq_div_pow]
    exact log2_sub_div (uniqHpx_ge d i) (uniqHpx_lt d i hi) (Nat.le_refl _) (Nat.le_refl _)
  rw [fromUniqHpx, hd]
  exact congrArg (Prod.mk d) (Nat.add_sub_cancel i _)

/-- NUNIQ: `uniq_hpx ∘ from_uniq_hpx = id` on every code `u ≥ 4`. -/
theorem nuniq_encode_decode (u : Nat) (hu : 4 ≤ u) : uniqHpx (fromUniqHpx u).1 (fromUniqHpx u).2 = u := by
  have hne : u ≠ 0 := Nat.ne_of_gt (Nat.lt_of_lt_of_le (by decide) hu)
  have hlog : 2 ≤ Nat.log2 u := (Nat.le_log2 hne).2 hu
  -- the subtracted `4·4^d` is at most `2 ^ log2 u ≤ u`
  refine Nat.sub_add_cancel (Nat.le_trans ?_ (Nat.log2_self_le hne))
  rw [four_shl, Nat.shiftRight_eq_div_pow]
  exact Nat.pow_le_pow_right (by decide) (Nat.add_le_of_le_sub' hlog (Nat.mul_div_le _ 2))

/-- NUNIQ natural order is (depth, idx) lexicographic. -/
theorem nuniq_order (d d' i i' : Nat) (hi : i < 12 * 4 ^ d) :
    (d < d' → uniqHpx d i < uniqHpx d' i') ∧ (i < i' → uniqHpx d i < uniqHpx d i') :=
  ⟨fun hd => Nat.lt_of_lt_of_le (uniqHpx_lt d i hi)
      (Nat.le_trans (Nat.pow_le_pow_right (by decide) (Nat.add_le_add_left (Nat.mul_le_mul_left 2 hd) 2))
        (uniqHpx_ge d' i')),
    fun h => Nat.add_lt_add_right h _⟩

/-- z-order uniq: `from_zuniq ∘ to_zuniq = id` for every quantity, width, legal depth and index. -/
theorem zuniq_decode_encode (q : Qty) (w d i : Nat) (hdim : 0 < q.dim) (hd : d ≤ q.maxDepth w)
    (hw : q.shiftFromMax w d < w) : fromZuniq q w (toZuniq q w d i) = (d, i) := by
  simp only [toZuniq, or_one_shl, fromZuniq, tz_odd_shl w _ i hw]
  refine Prod.ext ?_ ?_
  · show q.maxDepth w - q.dim * (q.maxDepth w - d) / q.dim = d
    rw [Nat.mul_div_cancel_left _ hdim]; exact Nat.sub_sub_self hd
  · show ((2 * i + 1) <<< q.shiftFromMax w d) >>> (q.shiftFromMax w d + 1) = i
    rw [Nat.shiftRight_add, Nat.shiftLeft_shiftRight, Nat.shiftRight_eq_div_pow]
    exact (Nat.mul_add_div Nat.two_pos i 1).trans (Nat.add_zero i)

/-- Widening an index to a larger type and narrowing it back is the identity. -/
theorem width_roundtrip (k x : Nat) : narrow k (widen k x) = x := narrow_widen k x

/-- Widening preserves order, hence membership of scaled indices in scaled ranges. -/
theorem widen_mono (k x y : Nat) : x < y ↔ widen k x < widen k y := by
  unfold widen
  rw [Nat.shiftLeft_eq, Nat.shiftLeft_eq]
  exact (Nat.mul_lt_mul_right (Nat.two_pow_pos k)).symm

/-- Cell view, one step (`MocRange::next`): the cell returned has a legal depth and its range is
    exactly `[s, s')` with `s < s' ≤ e` — so the view makes progress, never leaves the range and
    every cell is aligned on its own depth. -/
theorem cell_step (q : Qty) (hq : q.dim = 1 ∨ q.dim = 2) (w s e : Nat) (hse : s < e) :
    let r := nextCell q w s e
    s < r.2 ∧ r.2 ≤ e ∧ r.1.1 ≤ q.maxDepth w ∧ rangeOfCell q w r.1 = (s, r.2) := by
  have hk := level_le q w s e
  have h := (le_level_iff q hq w s e hse _ hk).1 (Nat.le_refl _)
  have hp := Nat.two_pow_pos (q.dim * level q w s e)
  simp only [nextCell_eq, Nat.one_shiftLeft, rangeOfCell_eq, tileOf_block q w _ s hk h.1]
  exact ⟨Nat.lt_add_of_pos_right hp, h.2, Nat.sub_le _ _, trivial⟩

theorem aligned_of_valid (q : Qty) (w d : Nat) (l : List Rng) (h : Valid q w d l) :
    Aligned (2 ^ q.shiftFromMax w d) l :=
  h.aligned

/-- **Cell view of a whole MOC is lossless**: for every valid MOC (any quantity of dimension 1 or 2,
    any index width, any depth ≤ MAX_DEPTH) converting the ranges to hierarchical cells
    (`CellMOCIteratorFromRanges`) and reading the cells back (`RangeMOCIteratorFromCells`) returns
    exactly the original ranges. -/
theorem cells_roundtrip (q : Qty) (hq : q.dim = 1 ∨ q.dim = 2) (w d : Nat) (hd : d ≤ q.maxDepth w)
    (l : List Rng) (h : Valid q w d l) : rangesOfCells q w (cellsOf q w d l) = l :=
  rangesOfCells_cellsOf q hq w d hd l h.1 (aligned_of_valid q w d l h)

theorem cells_cover (q : Qty) (hq : q.dim = 1 ∨ q.dim = 2) (w d : Nat) (hd : d ≤ q.maxDepth w)
    (l : List Rng) (h : Valid q w d l) (x : Nat) :
    mem x ((cellsOf q w d l).map (rangeOfCell q w)) ↔ mem x l :=
  cellsOf_cover q hq w d hd l (fun r hr => Nat.le_of_lt (canon_nonempty h.1 r hr))
    (aligned_of_valid q w d l h) x

/-- Two valid MOCs of depth `d` covering the same indices have the same cells — because they are the same
    list of ranges (`Canon.ext`): this much holds of any function of the ranges.  What is particular to
    the cell view is the converse, `cells_injective`. -/
theorem cells_normal_form (q : Qty) (w d : Nat) (l1 l2 : List Rng) (h1 : Valid q w d l1) (h2 : Valid q w d l2)
    (hs : ∀ x, mem x l1 ↔ mem x l2) : cellsOf q w d l1 = cellsOf q w d l2 := by
  rw [Canon.ext h1.1 h2.1 hs]

def parentCell (q : Qty) (c : Cell) : Cell := (c.1 - 1, c.2 >>> q.dim)

theorem canon_gap : ∀ (l : List Rng) (lo : Nat), CanonFrom lo l → ∀ r ∈ l,
    lo ≤ r.1 ∧ r.1 < r.2 ∧ ¬ mem r.2 l ∧ (0 < r.1 → ¬ mem (r.1 - 1) l) :=
  _root_.Moc.canon_gap

/-- **Every cell of the cell view is maximal.**  For every valid MOC `M` (any quantity of dimension 1 or 2),
    no cell of the cell view of depth ≥ 1 has its parent inside `M`: some index of the parent cell is not
    covered — four siblings never stand for their parent.  With `cells_cover` this characterises the cells
    independently of the algorithm that computes them (`cellsOf_iff_maxBlock`, Lemmas/CellMax).  The hypothesis
    `hw` (one more level would still fit in the index type) is not used. -/
theorem cells_maximal (q : Qty) (hq : q.dim = 1 ∨ q.dim = 2) (w d : Nat) (hd : d ≤ q.maxDepth w)
    (hw : q.dim * q.maxDepth w + q.dim ≤ w) (l : List Rng) (hv : Valid q w d l) :
    ∀ c ∈ cellsOf q w d l, 0 < c.1 →
      ∃ x, (rangeOfCell q w (parentCell q c)).1 ≤ x ∧ x < (rangeOfCell q w (parentCell q c)).2 ∧ ¬ mem x l := by
  intro c hc hpos
  obtain ⟨h1, -, -, -, h4⟩ := cellsOf_block q hq w d hd l hv.1 (aligned_of_valid q w d l hv) c hc
  have hJ := Nat.le_trans h1 hd
  -- the range of the parent cell is the parent block of the tile, which is not inside `l`
  rw [rangeOfCell_eq, parentCell, tileOf_parent q w c hpos hJ]
  simpa only [UniqIter.BlockIn, Classical.not_forall, exists_prop] using
    h4 (Nat.sub_lt (Nat.lt_of_lt_of_le hpos hJ) hpos)

/-- The hypothesis `hw` that `cells_maximal`, `cell_block` and `emitted_iff_cell` carry without using it
    holds for the three quantities on the three index widths. -/
theorem maximal_room :
    (∀ q ∈ [Params.hpx, Params.time, Params.freq], ∀ w ∈ [16, 32, 64], q.dim * q.maxDepth w + q.dim ≤ w) := by decide

/-- **`uniq_hpx_to_range`**: the range computed from the NUNIQ number of a cell is the range of that cell (decode, then
    shift by twice the depth difference), for every depth and every cell index of the HEALPix domain. -/
theorem nuniq_to_range (w d i : Nat) (hi : i < 12 * 4 ^ d) :
    rangeOfCell Params.hpx w (fromUniqHpx (uniqHpx d i)) = rangeOfCell Params.hpx w (d, i) := by
  rw [nuniq_decode_encode d i hi]

theorem cells_injective (q : Qty) (hq : q.dim = 1 ∨ q.dim = 2) (w d : Nat) (hd : d ≤ q.maxDepth w)
    (l1 l2 : List Rng) (h1 : Valid q w d l1) (h2 : Valid q w d l2)
    (hc : cellsOf q w d l1 = cellsOf q w d l2) : l1 = l2 := by
  rw [← cells_roundtrip q hq w d hd l1 h1, ← cells_roundtrip q hq w d hd l2 h2, hc]

/-- **Cell-range view is lossless too**: ranges → cells → cell ranges (consecutive cells of one depth grouped)
    → ranges (touching cell ranges fused) returns exactly the original ranges, for every valid MOC. -/
theorem cellranges_roundtrip (q : Qty) (hq : q.dim = 1 ∨ q.dim = 2) (w d : Nat) (hd : d ≤ q.maxDepth w)
    (l : List Rng) (h : Valid q w d l) :
    rangesOfCellRanges q w (cellRangesOf (cellsOf q w d l)) = l := by
  rw [rangesOfCellRanges_cellRangesOf]
  exact cells_roundtrip q hq w d hd l h

theorem cellranges_cover (q : Qty) (hq : q.dim = 1 ∨ q.dim = 2) (w d : Nat) (hd : d ≤ q.maxDepth w)
    (l : List Rng) (h : Valid q w d l) (x : Nat) :
    mem x ((cellRangesOf (cellsOf q w d l)).map (rangeOfCellRange q w)) ↔ mem x l := by
  rw [mem_cellRangesOf, cells_cover q hq w d hd l h]

/-- **Flat cells** (`flatten_to_fixed_depth_cells`): exactly the depth-`d` cells inside the MOC. -/
theorem flat_cells_sem (sh : Nat) (l : List Rng) (ha : Aligned (2 ^ sh) l) (c : Nat) :
    c ∈ flatCellsOf sh l ↔ mem (c <<< sh) l := by
  unfold flatCellsOf
  rw [mem_iff_exists, List.mem_flatMap]
  have hc := Nat.two_pow_pos sh
  refine exists_congr fun r => and_congr_right fun hr => ?_
  -- count in cells: `r = [a·2^sh, b·2^sh)`
  obtain ⟨⟨a, ha1⟩, ⟨b, hb1⟩⟩ := ha r hr
  simp only [Nat.shiftRight_eq_div_pow, Nat.shiftLeft_eq]
  rw [ha1, hb1, ← Nat.mul_sub, Nat.mul_div_cancel_left _ hc, Nat.mul_div_cancel_left _ hc, Nat.mul_comm c,
    Nat.mul_le_mul_left_iff hc, Nat.mul_lt_mul_left hc, mem_range_sub_map (fun u => u)]
  constructor
  · rintro ⟨u, h1, h2, rfl⟩
    exact ⟨h1, h2⟩
  · rintro ⟨h1, h2⟩
    exact ⟨c, h1, h2, rfl⟩

/-- **Generic uniq numbering** (`to_uniq_gen` / `from_uniq_gen`, sentinel bit above the index): decoding
    inverts encoding for every depth and in-range index, for the three quantities of the library. -/
theorem uniqGen_decode_encode (q : Qty) (hq : q = Params.hpx ∨ q = Params.time ∨ q = Params.freq) (d i : Nat)
    (hi : i < q.nCells d) : fromUniqGen q (toUniqGen q d i) = (d, i) := by
  rcases hq with rfl | rfl | rfl <;> exact fromUniqGen_toUniqGen _ (by decide) (by decide) d i hi

/-- **Generic uniq → range** (`uniq_gen_to_range`): the code of a cell converts to the index range of THAT cell, for
    the three quantities — the same range as the cell → range conversion of the other views (`rangeOfCell`, i.e.
    `MocRange::from((depth, idx))`).  (The implementation shifted by `2 * (MAX_DEPTH - depth)` for time and frequency too:
    /repo "fix: uniq_gen_to_range used the HEALPix shift for every quantity".) -/
theorem uniqGen_to_range (q : Qty) (hq : q = Params.hpx ∨ q = Params.time ∨ q = Params.freq) (w d i : Nat)
    (hi : i < q.nCells d) : uniqGenToRange q w (toUniqGen q d i) = rangeOfCell q w (d, i) := by
  unfold uniqGenToRange
  rw [uniqGen_decode_encode q hq d i hi]

section NuniqIter
open Moc.UniqIter

/-- **The NUNIQ iterator (`HpxToUniqIter`) covers exactly the MOC**: depth after depth (levels `J`, `J − 1`, …, 0
    counted from the deepest one, cells of `2^(g·level)` indices), the aligned ranges it emits cover every index of a
    canonical `M` and nothing else; each one is a non-empty union of whole cells of its level. -/
theorem nuniq_iter_cover (g J : Nat) (M : List Rng) (hc : Canon M) :
    (∀ x, mem x M ↔ ∃ e ∈ run g J M, e.2.1 ≤ x ∧ x < e.2.2) ∧
    (∀ e ∈ run g J M, e.2.1 < e.2.2 ∧ 2 ^ (g * e.1) ∣ e.2.1 ∧ 2 ^ (g * e.1) ∣ e.2.2) :=
  ⟨run_cover g J M hc, run_aligned g J M⟩

/-- **… and only with maximal cells**: whatever it emits below the top level, no cell one level up that
    meets the emitted range lies inside `M` — the NUNIQ view never holds four siblings whose parent is in the
    MOC.  This is what `cells_maximal` says of the cell view; `emitted_iff_cell` below rests on the stronger
    `UniqIter.emitted_iff_maxBlock`. -/
theorem nuniq_iter_maximal (g J : Nat) (M : List Rng) (hc : Canon M) :
    ∀ e ∈ run g J M, e.1 < J → ∀ p y, 2 ^ (g * (e.1 + 1)) ∣ p → p ≤ y ∧ y < p + 2 ^ (g * (e.1 + 1)) →
      e.2.1 ≤ y ∧ y < e.2.2 → ¬ BlockIn (g * (e.1 + 1)) p M :=
  fun e he hlt => run_maximal_gen g J M hc e he fun h => absurd h (Nat.ne_of_lt hlt)

/-- **`UniqToHpxIter`** yields exactly the ranges of the cells whose NUNIQ numbers lie in the NUNIQ ranges. -/
theorem uniq_to_hpx_spec (w : Nat) (urs : List Rng) (x : Rng) :
    x ∈ uniqToHpx w urs ↔ ∃ r ∈ urs, ∃ u, r.1 ≤ u ∧ u < r.2 ∧ x = rangeOfCell Params.hpx w (fromUniqHpx u) := by
  induction urs with
  | nil => exact ⟨fun h => absurd h List.not_mem_nil, fun ⟨_, h, _⟩ => absurd h List.not_mem_nil⟩
  | cons r t ih =>
    rw [uniqToHpx, List.mem_append, mem_range_sub_map (fun u => rangeOfCell Params.hpx w (fromUniqHpx u)), ih]
    simp only [List.mem_cons, exists_eq_or_imp]

/-- **`HpxUniq2DepthIdxIter`** (`iter_depth_pix`) lists exactly the cells of the emitted ranges, level `j` as depth `J − j`. -/
theorem depth_idx_spec (g J : Nat) (es : List (Nat × Rng)) (d i : Nat) :
    (d, i) ∈ depthIdx g J es ↔
      ∃ e ∈ es, d = J - e.1 ∧ e.2.1 >>> (g * e.1) ≤ i ∧ i < e.2.2 >>> (g * e.1) := by
  unfold depthIdx
  rw [List.mem_flatMap]
  refine exists_congr fun e => and_congr_right fun _ => ?_
  rw [mem_range_sub_map (fun u => (J - e.1, u))]
  simp only [Prod.mk.injEq]
  constructor
  · rintro ⟨u, h1, h2, h3, rfl⟩
    exact ⟨h3, h1, h2⟩
  · rintro ⟨h1, h2, h3⟩
    exact ⟨i, h2, h3, h1, rfl⟩

theorem down_shl (g j c : Nat) : down (g * (j + 1)) (c <<< (g * j)) = (c >>> g) <<< (g * (j + 1)) :=
  Moc.UniqIter.down_shl g j c

theorem cell_block (q : Qty) (hq : q.dim = 1 ∨ q.dim = 2) (w d : Nat) (hd : d ≤ q.maxDepth w)
    (hw : q.dim * q.maxDepth w + q.dim ≤ w) (M : List Rng) (hv : Valid q w d M) (c : Cell) (hc : c ∈ cellsOf q w d M) :
    c.1 ≤ q.maxDepth w ∧
    2 ^ (q.dim * (tileOf q w c).1) ∣ (tileOf q w c).2 ∧
    BlockIn (q.dim * (tileOf q w c).1) (tileOf q w c).2 M ∧
    MaximalIn q.dim (q.maxDepth w) (tileOf q w c).1 (tileOf q w c).2 M ∧
    (rangeOfCell q w c).1 = (tileOf q w c).2 ∧ (rangeOfCell q w c).2 = (tileOf q w c).2 + 2 ^ (q.dim * (tileOf q w c).1) := by
  obtain ⟨h1, h2, -, h3, h4⟩ := cellsOf_block q hq w d hd M hv.1 (Moc.C05.aligned_of_valid q w d M hv) c hc
  exact ⟨Nat.le_trans h1 hd, h2, h3, h4, rfl, by rw [rangeOfCell_eq]⟩

/-- **The NUNIQ iterator and the cell view produce the same cells**: for every valid MOC, an aligned cell
    is emitted by the depth-by-depth iterator if and only if it is a cell of the cell view. -/
theorem emitted_iff_cell (q : Qty) (hq : q.dim = 1 ∨ q.dim = 2) (w d : Nat) (hd : d ≤ q.maxDepth w)
    (hw : q.dim * q.maxDepth w + q.dim ≤ w) (M : List Rng) (hv : Valid q w d M) (j p : Nat) :
    Emitted q.dim (q.maxDepth w) M j p ↔ ∃ c ∈ cellsOf q w d M, tileOf q w c = (j, p) := by
  -- both families are the maximal aligned blocks of `M`
  exact (emitted_iff_maxBlock _ _ M hv.1 j p).trans
    (cellsOf_iff_maxBlock q hq w d hd M hv.1 (Moc.C05.aligned_of_valid q w d M hv) j p).symm

end NuniqIter

/-! Non-vacuity -/
example : (5 : Nat) < 12 * 4 ^ 0 ∧ (4 : Nat) ≤ 17 := by decide
example : Params.hpx.dim = 1 ∨ Params.hpx.dim = 2 := by decide
example : Params.time.shiftFromMax 64 3 < 64 ∧ 3 ≤ Params.time.maxDepth 64 := by decide

/-- `cells_maximal` on a concrete S-MOC: base cell 3 WHOLE is the single cell `0/3`, not its four children. -/
example : cellsOf Params.hpx 64 1 [(3 * 2 ^ 58, 4 * 2 ^ 58)] = [(0, 3)] := by decide

/-- A canonical list to which `nuniq_iter_cover` and `nuniq_iter_maximal` apply (a whole level-1 cell and one
    more index; the driver evaluates `run` on it: `[(1, (12, 16)), (0, (16, 17))]`). -/
example : Canon [((12 : Nat), (17 : Nat))] := by decide

end Moc.C05
