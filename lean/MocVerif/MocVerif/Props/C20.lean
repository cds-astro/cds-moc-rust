/-
  C20 — cumulative-value selection on multi-order maps (`valued_cells_to_moc_with_opt`) brackets the requested
  mass.  The enclosed value is defined on `selectWithMass`, proved to select exactly the cells of the model
  function tied to the code; the bracket needs the two thresholds not to be strictly inside the same map cell,
  which is the open finding.
-/
import MocVerif.Lemmas.SetOps
import MocVerif.Lemmas.Shift
import MocVerif.Lemmas.ValuedMass
import MocVerif.Lemmas.ValuedOrder

namespace Moc.C20
open Moc.Mass

/-- The accumulation loops (`while acc + v[i] <= thr`) take the maximal prefix of the sorted map whose
    cumulative value stays `≤ thr`. -/
theorem accumulation_loop_spec (thr : Nat) (l : List VCell) (acc : Nat) :
    let r := scanWhole thr acc l
    l = r.2.1 ++ r.2.2 ∧ r.1 = acc + sumVal r.2.1 ∧ (acc ≤ thr → r.1 ≤ thr) ∧
    (∀ c t, r.2.2 = c :: t → thr < r.1 + c.val) := by
  obtain ⟨whole, rest, hsc, h⟩ := scanWhole_spec thr l acc
  rw [hsc]
  exact ⟨h.1, rfl, h.2⟩

/-- The sub-cell counting loop (`while subcell_val <= target_val`) is Euclidean division, bounded by the fuel. -/
theorem subcell_loop_spec (sub : Nat) (hs : 0 < sub) (fuel k t : Nat) :
    let r := takeSub sub fuel k t
    k ≤ r.1 ∧ r.1 ≤ k + fuel ∧ t = (r.1 - k) * sub + r.2 ∧ (r.1 < k + fuel → r.2 < sub) := by
  obtain ⟨n, t', hr, h1, h3, h4⟩ := takeSub_eq sub fuel k t
  simp only [hr, Nat.add_sub_cancel_left]
  exact ⟨Nat.le_add_right _ _, Nat.add_le_add_left h1 _, h3, fun h => h4 (Nat.lt_of_add_lt_add_left h)⟩


/-- **Totality of the upper-boundary descent**: for a cell value that is divisible all the way down
    (`4^fuel ∣ v`, i.e. a dyadic value) and any target `t < v`, no assertion fails and the recursion
    terminates — including `t = 0` and targets exactly on a sub-cell boundary. -/
theorem descent_total : ∀ (fuel depth ipix v : Nat) (strict : Bool) (t : Nat), 4 ^ fuel ∣ v → t < v →
    (descent fuel depth ipix v strict t).isSome = true := by
  intro fuel depth ipix v strict t hd ht
  obtain ⟨cs, h, -⟩ := descentG_spec false id fuel depth ipix v strict t hd ht
  rw [descent_eq, h]; rfl

/-! Non-vacuity -/
example : (4 : Nat) ^ 2 ∣ 48 ∧ (17 : Nat) < 48 := by decide
example : descent 2 0 4 48 true 17 = some [(1, 16), (2, 68)] := by decide



/-- **Enclosed value of the four descents** (dyadic cell value `v`, target `t < v`; one deepest piece
    is `v / 4^fuel`): upper boundary, both orders — strict: LESS than one piece below the target;
    non-strict: LESS than one piece above it (strict inequalities: a threshold lying exactly on a sub-cell boundary
    cuts nothing and is met exactly — repaired, /repo "fix: a threshold exactly on a sub-cell boundary …"; with the
    former code the difference could be a whole piece). -/
theorem upper_descents_mass (fuel depth ipix v : Nat) (strict rev : Bool) (t : Nat) (cs : List Cell)
    (hd : 4 ^ fuel ∣ v) (ht : t < v)
    (h : (if rev then descentR else descent) fuel depth ipix v strict t = some cs) :
    (strict = true → massOf v depth cs ≤ t ∧ t < massOf v depth cs + v / 4 ^ fuel) ∧
    (strict = false → t ≤ massOf v depth cs ∧ massOf v depth cs < t + v / 4 ^ fuel) := by
  rw [(descents_eq rev).1] at h
  exact (descentG_bracket h hd ht).lt_of_pos (piece_pos hd (Nat.zero_lt_of_lt ht))

/-- Lower boundary, both orders: what is kept of the cell encloses `v − t` within one deepest piece
    (below in strict mode, above in non-strict mode). -/
theorem lower_descents_mass (fuel depth ipix v : Nat) (strict rev : Bool) (t : Nat) (cs : List Cell)
    (hd : 4 ^ fuel ∣ v) (ht : t < v)
    (h : (if rev then descentRRev else descentRev) fuel depth ipix v strict t = some cs) :
    (strict = true → massOf v depth cs + t ≤ v ∧ v < massOf v depth cs + t + v / 4 ^ fuel) ∧
    (strict = false → v ≤ massOf v depth cs + t ∧ massOf v depth cs + t < v + v / 4 ^ fuel) := by
  rw [(descents_eq rev).2] at h
  have hb := (descentG_bracket h hd ht).add (Bracket.exact strict t 0)
  rw [kept, cond_true, Nat.sub_add_cancel (Nat.le_of_lt ht), Nat.add_zero] at hb
  exact hb.lt_of_pos (piece_pos hd (Nat.zero_lt_of_lt ht))

/-- `selectWithMass` (the selection together with the value `M` it encloses and the values `uLow`, `uHigh` of one
    boundary piece per threshold) selects exactly the cells of the model function tied to the code by the
    correspondence. -/
theorem selection_cells (maxDepth : Nat) (cells : List VCell) (from_ to : Nat) (asc strict noSplit rev : Bool) :
    (selectWithMass maxDepth cells from_ to asc strict noSplit rev).map (·.1)
      = selectCells maxDepth cells from_ to asc strict noSplit rev :=
  selectWithMass_cells maxDepth cells from_ to asc strict noSplit rev

/-- The MOC returned (`HpxRanges::new_from` of the selected cells) is canonical and covers exactly the selected
    cells — so its footprint is inside the footprint of the map whenever the selected cells are. -/
theorem selection_moc (maxDepth : Nat) (cells : List VCell) (from_ to : Nat) (asc strict noSplit rev : Bool)
    (cs : List Cell) (m : List Rng)
    (hc : selectCells maxDepth cells from_ to asc strict noSplit rev = some cs)
    (hm : selectMoc maxDepth cells from_ to asc strict noSplit rev = some m) :
    Canon m ∧ ∀ x, mem x m ↔ ∃ c ∈ cs, c.2 <<< (2 * (29 - c.1)) ≤ x ∧ x < (c.2 + 1) <<< (2 * (29 - c.1)) := by
  unfold selectMoc at hm
  rw [hc] at hm
  injection hm with hm
  subst hm
  exact newFrom_map_spec _ cs fun c _ => shl_lt_shl _ _ _ (Nat.lt_succ_self _)

/-- **Footprint**: the selection is made only of cells of the map or, when splitting is allowed, of their
    sub-cells (`SubCell d i c`: `c` is `(d, i)` or one of its descendants). -/
theorem selection_footprint (maxDepth : Nat) (cells : List VCell) (from_ to : Nat) (asc strict noSplit rev : Bool)
    (cs : List Cell) (h : selectCells maxDepth cells from_ to asc strict noSplit rev = some cs) :
    ∀ c ∈ cs, ∃ v ∈ cells, SubCell v.depth v.idx c := by
  obtain ⟨M, uLow, uHigh, hw⟩ := selectCells_some h
  exact selectWithMass_prov hw

/-- **The cells are taken in the requested density order** … -/
theorem scan_order (asc : Bool) (cells : List VCell) :
    (asc = true → (sortedOf asc cells).Pairwise (fun a b => a.dens ≤ b.dens)) ∧
    (asc = false → (sortedOf asc cells).Pairwise (fun a b => b.dens ≤ a.dens)) ∧
    (∀ y, y ∈ sortedOf asc cells ↔ y ∈ cells) :=
  ⟨(sortedOf_ordered asc cells).1, (sortedOf_ordered asc cells).2, (sortedOf_spec asc cells).1⟩

/-- … **and every (non-null) cell lying between the two thresholds in that order is selected**, whatever the
    options. -/
theorem selection_contains_between (maxDepth : Nat) (cells : List VCell) (from_ to : Nat) (asc strict noSplit rev : Bool)
    (cs : List Cell) (h : selectCells maxDepth cells from_ to asc strict noSplit rev = some cs)
    (pre post : List VCell) (c : VCell) (hs : sortedOf asc cells = pre ++ c :: post)
    (h1 : from_ ≤ sumVal pre) (h2 : sumVal pre + c.val ≤ to) (h3 : 0 < c.val) :
    (c.depth, c.idx) ∈ cs := by
  obtain ⟨M, uLow, uHigh, hw⟩ := selectCells_some h
  exact selectWithMass_between hw hs h1 h2 h3

/-- **The selection brackets the requested mass**: for every map of dyadic values, every
    `from ≤ to ≤ total`, every order / strictness / splitting / descent option, whenever the two
    thresholds are not strictly inside the same map cell, the value `M` enclosed by the selection
    differs from `to − from` by LESS than one boundary piece per threshold (third conjunct: strict inequality; when no
    boundary cell is descended into, `uLow + uHigh = 0` and the first two conjuncts give equality) — never above the
    target in strict mode, never below it in non-strict mode.  (`uLow` / `uHigh` are the finest piece of the cell a
    threshold falls in, or that cell when splitting is off; a threshold lying exactly on a sub-cell boundary of a cell
    that is descended into cuts nothing: the harness judges that corner with the exact bound.) -/
theorem selection_mass_bracket (maxDepth : Nat) (cells : List VCell) (from_ to : Nat) (asc strict noSplit rev : Bool)
    (cs : List Cell) (M uLow uHigh : Nat)
    (h : selectWithMass maxDepth cells from_ to asc strict noSplit rev = some (cs, M, uLow, uHigh))
    (hdy : ∀ c ∈ cells, 4 ^ (maxDepthOf maxDepth cells - c.depth) ∣ c.val)
    (hft : from_ ≤ to) (htot : to ≤ sumVal cells) (hsame : NotSameCell cells from_ to asc) :
    (strict = true → M ≤ to - from_ ∧ to - from_ ≤ M + uLow + uHigh ∧ (to - from_ < M + uLow + uHigh ∨ uLow + uHigh = 0)) ∧
    (strict = false → to - from_ ≤ M ∧ M ≤ to - from_ + uLow + uHigh ∧ (M < to - from_ + uLow + uHigh ∨ uLow + uHigh = 0)) := by
  simpa only [Bracket, Within, Nat.add_assoc] using selectWithMass_bracket h hdy hft htot hsame

/-- The hypothesis `NotSameCell` is necessary (this is the open finding): one cell of value 64 at
    depth 0, maximum depth 1, `from = 16`, `to = 32` (both strictly inside the cell), strict, split:
    the lower-boundary descent keeps the three upper quarters (48: everything above `from`) and the upper threshold
    is never looked at — in STRICT mode the selection encloses 48 for a target of 16. -/
theorem both_thresholds_one_cell_counterexample :
    selectWithMass 1 [⟨0, 0, 64, 64⟩] 16 32 false true false false = some ([(1, 1), (1, 2), (1, 3)], 48, 16, 0) ∧
    ¬ NotSameCell [⟨0, 0, 64, 64⟩] 16 32 false := by
  constructor
  · decide
  · intro h
    have := h ⟨0, 0, 64, 64⟩ [] (by decide) (by decide)
    revert this; decide

end Moc.C20
