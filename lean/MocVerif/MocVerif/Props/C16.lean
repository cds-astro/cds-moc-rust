/-
  C16 — readers see a consistent file during and after an interrupted update.

  Two models, no map between them is proved.  The theorems before `section File` are on the effect-level
  `View` / `Statuses` of `Model/MocSetCrash.lean` (offsets and counts only; `WF` below is about a `View`).  Those
  of `section File` are on the words and bytes of `Model/MocSetFile.lean` (`fileAppendPrefix`, `fileChgPrefix`;
  `FileWF` is the one of `Props/C14.lean`).
-/
import MocVerif.Lemmas.MocSetCrash
import MocVerif.Props.C14

namespace Moc.C16

/-- A well-formed file before the update: exactly the listed MOCs are indexed, every end lies within
    the file length. -/
def WF (v : View) : Prop := v.listed = v.index.length ∧ ∀ i, i < v.index.length → nthD v.index i ≤ v.fileLen

theorem wf_consistent (v : View) (h : WF v) : Consistent v :=
  ⟨Nat.le_of_eq h.1, fun i hi => h.2 i (h.1 ▸ hi)⟩

theorem getD_append_lt (l : List Nat) (x : Nat) : ∀ i, i < l.length → nthD (l ++ [x]) i = nthD l i :=
  nthD_append_lt l x

theorem getD_append_eq (l : List Nat) (x : Nat) : nthD (l ++ [x]) l.length = x := by
  induction l with
  | nil => rfl
  | cons a t ih => exact ih

/-- **Atomicity of `append` (repaired order)**: at EVERY boundary between two visible effects — and
    hence after a kill at that boundary — a reader sees a consistent file whose listing is either
    the listing before the update or the listing after it. -/
theorem append_atomic (v : View) (n : Nat) (h : WF v) (k : Nat) :
    let w := visible v ((appendEffs v n).take k)
    Consistent w ∧ (w.listed = v.listed ∨ w.listed = v.listed + 1) := by
  -- data, index word, metadata word: each store meets the guard under which it keeps `Consistent`
  have c0 := wf_consistent v h
  have c1 := consistent_data c0 n
  have c2 := consistent_index c1 (v.fileLen + n)
  have c3 : Consistent (visible v (appendEffs v n)) :=
    consistent_meta c2 (by simp [applyEff, h.1]) (by
      show nthD (v.index ++ [v.fileLen + n]) v.listed ≤ v.fileLen + n
      rw [h.1, getD_append_eq]; exact Nat.le_refl _)
  match k with
  | 0 => exact ⟨c0, .inl rfl⟩
  | 1 => exact ⟨c1, .inl rfl⟩
  | 2 => exact ⟨c2, .inl rfl⟩
  | k + 3 =>
    rw [List.take_of_length_le (Nat.le_add_left 3 k : (appendEffs v n).length ≤ k + 3)]
    exact ⟨c3, .inr rfl⟩

/-- So the theorems above apply to the next append. -/
theorem append_preserves_wf (v : View) (n : Nat) (h : WF v) : WF (visible v (appendEffs v n)) := by
  have hl : v.listed + 1 = (v.index ++ [v.fileLen + n]).length := by rw [h.1, List.length_append]; rfl
  exact ⟨hl, fun i hi => (append_atomic v n h 3).1.2 i (Nat.lt_of_lt_of_eq hi hl.symm)⟩

/-- A killed append leaves at worst orphan bytes / an orphan index word (beyond the listed entries, where
    `Consistent` does not look), never a listed MOC with missing data.  (What a LATER append does with the orphans is
    not in the `View` model.) -/
theorem kill_leaves_consistent (v : View) (n : Nat) (h : WF v) (k : Nat) :
    Consistent (visible v ((appendEffs v n).take k)) := (append_atomic v n h k).1

/-- **The defect of the original order, as a theorem**: after the metadata store and before the data
    flush a reader LISTS a MOC whose bytes are beyond the end of the file. -/
theorem original_order_inconsistent :
    let v : View := { fileLen := 2048, index := [], listed := 0 }
    ¬ Consistent (visible v ((appendEffsOriginal v 16).take 2)) := by
  decide

theorem visibleStatuses_length (v : Statuses) (effs : List (Nat × Nat)) :
    (visibleStatuses v effs).length = v.length := by
  unfold visibleStatuses
  induction effs generalizing v with
  | nil => rfl
  | cons e t ih => simp only [List.foldl_cons]; rw [ih]; simp [applyStatus]

/-- **`chgstatus`, entry by entry**: at every boundary between two status stores (hence after a kill there) every
    entry carries either its old status or the new one; nothing else is written, so every listed MOC keeps its
    complete data (`Consistent` is about index / data only). -/
theorem chg_prefix_old_or_new (st : Nat) (v : Statuses) (effs : List (Nat × Nat)) (hst : ∀ e ∈ effs, e.2 = st) (k : Nat) :
    (visibleStatuses v (effs.take k)).length = v.length ∧
    ∀ i : Nat, (visibleStatuses v (effs.take k))[i]? = v[i]? ∨ (visibleStatuses v (effs.take k))[i]? = some st := by
  refine ⟨visibleStatuses_length _ _, ?_⟩
  have hl : ∀ e ∈ effs.take k, e.2 = st := fun e he => hst e (List.mem_of_mem_take he)
  generalize effs.take k = l at hl
  -- true of `v`, and kept by every store
  suffices ∀ w : Statuses, (∀ i : Nat, w[i]? = v[i]? ∨ w[i]? = some st) →
      ∀ i : Nat, (visibleStatuses w l)[i]? = v[i]? ∨ (visibleStatuses w l)[i]? = some st from
    this v fun _ => .inl rfl
  induction l with
  | nil => exact fun w hw => hw
  | cons e t ih =>
    intro w hw
    refine ih (fun x hx => hl x (List.mem_cons_of_mem _ hx)) (applyStatus w e) fun i => ?_
    rcases applyStatus_getElem? w e i with h | h
    · rw [h]; exact hw i
    · rw [h, hl e List.mem_cons_self]; exact .inr rfl

/-- **A `chgstatus` that changes ONE entry is atomic**: every prefix of its effects shows the state before or
    the state after. -/
theorem chg_single_atomic (v : Statuses) (effs : List (Nat × Nat)) (h1 : effs.length ≤ 1) (k : Nat) :
    visibleStatuses v (effs.take k) = v ∨ visibleStatuses v (effs.take k) = visibleStatuses v effs := by
  have : effs.take k = [] ∨ effs.take k = effs := by
    cases k with
    | zero => exact .inl rfl
    | succ j => exact .inr (List.take_of_length_le (Nat.le_trans h1 (Nat.succ_le_succ (Nat.zero_le j))))
  rcases this with h | h <;> rw [h]
  · exact .inl rfl
  · exact .inr rfl

/-- **A `chgstatus` on several identifiers is NOT atomic** (the open finding): after the first of the two
    stores of `chgstatus deprecated 2,3` the statuses are neither those before nor those after the command. -/
theorem chg_multi_not_atomic :
    let v : Statuses := [1, 3, 3, 3]                                  -- ids 1 (removed), 2, 3, 4 (valid)
    let effs := chgEffs 2 [2, 3] [(1, 1), (2, 3), (3, 3), (4, 3)]
    effs = [(1, 2), (2, 2)] ∧
    visibleStatuses v (effs.take 1) = [1, 2, 3, 3] ∧
    visibleStatuses v (effs.take 1) ≠ v ∧ visibleStatuses v (effs.take 1) ≠ visibleStatuses v effs := by
  decide

/-- **`purge`** writes the compacted set under a temporary name and renames it over the set: a reader opening
    the set's name sees the old content at every boundary before the rename and the new one after it. -/
theorem purge_atomic {α : Type} (old new : α) (k : Nat) :
    purgeView old new (purgeEffs.take k) = old ∨ purgeView old new (purgeEffs.take k) = new := by
  unfold purgeView
  split
  · exact Or.inr rfl
  · exact Or.inl rfl

theorem purge_switch_at_rename {α : Type} (old new : α) :
    purgeView old new (purgeEffs.take 1) = old ∧ purgeView old new (purgeEffs.take 2) = new ∧
    purgeView old new purgeEffs = new := by
  refine ⟨?_, ?_, ?_⟩ <;> simp [purgeView, purgeEffs]

/-! Non-vacuity -/
example : WF { fileLen := 2064, index := [2064], listed := 1 } := by
  refine ⟨rfl, fun i hi => ?_⟩
  have : i = 0 := by simp at hi; omega
  subst this; decide

section File
open Moc.MsFile Moc.C14

/-- **A writer killed after `k` of the three stores of `append`** (data bytes, index word, metadata
    word — the repaired program order) leaves a file in which a reader decodes EXACTLY the moc-set
    before the command (`k ≤ 2`: the bytes and the index word beyond the last listed entry are never
    looked at) or EXACTLY the moc-set after it (`k ≥ 3`). -/
theorem append_interrupted_file_view (f : File) (e : MsEntry) (k : Nat) (hf : FileWF f) (he : EntryOk e) :
    abs (fileAppendPrefix f e k) = if k ≥ 3 then (msAppend (abs f) e).1 else abs f := by
  obtain ⟨s, hr, _⟩ := abs_of_wf.1 hf
  rw [hr.abs, hr.appendPrefix he k]

/-- The update interrupted after its DATA store can be run again: the file that kill leaves
    (`MsFile.fileAppendPrefix_canon`, `k = 1`) is a canonical file with leftover bytes, which the next append
    overwrites.  The file a kill after the INDEX store leaves is not of the `build` form and is not covered here. -/
theorem append_interrupted_then_retry (n : Nat) (l : List MsEntry) (tail : List Nat) (e : MsEntry)
    (hok : ∀ x ∈ l, EntryOk x) (hnd : NoDupLive { n128 := n, entries := l }) (he : EntryOk e) (hl : e.status > 1) :
    abs (fileAppend (build n (l.map itemOf) (entryBytes e ++ tail)) e).1
      = (msAppend { n128 := n, entries := l } e).1 :=
  (Rep.append (s := ⟨n, l⟩) ⟨hok, _, rfl⟩ he).1.abs

/-- **`chgstatus` interrupted, at the level of the file**: whatever the number `k` of in-place stores
    performed before the kill, the index words and the data bytes are untouched and every metadata
    word is the one before the command or the one after it.  (With several identifiers the words may
    be a MIX of old and new: the open finding `chg_multi_not_atomic`.) -/
theorem chg_interrupted_file (f : File) (st : Nat) (ids : List Nat) (k : Nat) :
    (fileChgPrefix f st ids k).index = f.index ∧ (fileChgPrefix f st ids k).data = f.data ∧
    OldOrNew (fileChgPrefix f st ids k).mwords f.mwords (fileChg f st ids).1.mwords :=
  ⟨rfl, rfl, chgScanK_oldOrNew st f.mwords k ids.eraseDups⟩

end File

end Moc.C16
