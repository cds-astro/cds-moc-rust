/-
  C04 — lazy operator pipelines equal eager evaluation; hints never change results.
-/
import MocVerif.Lemmas.Expr
import MocVerif.Lemmas.Hints
import MocVerif.Lemmas.Query
import MocVerif.Model.Params

namespace Moc.C04

/-- The executable judge run on the implementation's observed hints is the property's predicate. -/
theorem hintOkB_iff (s : Src) : s.hintOkB = true ↔ s.HintOk := by
  unfold Src.hintOkB Src.HintOk
  rw [Bool.and_eq_true, Bool.and_eq_true, decide_eq_true_iff, and_assoc]
  refine and_congr ?_ (and_congr Iff.rfl ?_)
  · cases s.last with
    | none => exact ⟨fun _ _ => nofun, fun _ => rfl⟩
    | some r => simp only [Bool.and_eq_true, decide_eq_true_eq, List.all_eq_true, Option.some.injEq, forall_eq']
  · cases s.hi with
    | none => exact ⟨fun _ _ => nofun, fun _ => rfl⟩
    | some n => simp only [decide_eq_true_eq, Option.some.injEq, forall_eq']

/-- Per-operator hint consistency (repaired `size_hint`s of or / xor / minus / not / check). -/
theorem and_hints (l r : Src) (hl : l.HintOkAll) (hr : r.HintOkAll) (cl : Canon l.items) (cr : Canon r.items) :
    (andSrc l r).HintOkAll := by
  refine ⟨⟨fun _ => nofun, Nat.zero_le _, fun n hn => ?_⟩, trivial⟩
  show (andItems l r).length ≤ n
  rw [andItems_eq l r hl.1 hr.1 cl cr]
  exact Nat.le_trans (interLoop_length _ _) (andSizeHi_bound l r hl hr n hn)

theorem or_hints (l r : Src) (hl : l.HintOkAll) (hr : r.HintOkAll) (cl : Canon l.items) (cr : Canon r.items) :
    (orSrc l r).HintOkAll := by
  have e : (orSrc l r).items = unionLoop l.items r.items := orItems_eq l r hr.1 cl cr
  have sp := unionLoop_spec l.items r.items 0 0 cl cr
  refine ⟨⟨fun q hq => e ▸ orLast_ok l r hl.1 hr.1 _ sp.1 (fun x hx => (sp.2 x).1 hx) q hq, ?_⟩, trivial⟩
  by_cases hd : orDisjoint l r = true
  · -- `Chain::size_hint`: each operand is the range already taken out of it, plus what it announces then
    have ⟨lo1, hi1⟩ := l.length_bounds_of_afterNext hl
    have ⟨lo2, hi2⟩ := r.length_bounds_of_afterNext hr
    simp only [orSrc, hd, if_true, orItems_disjoint l r hd, List.length_append, Nat.add_assoc (_ + _)]
    refine ⟨Nat.add_le_add lo2 lo1, fun n hn => ?_⟩
    split at hn
    · cases hn
      exact Nat.add_le_add (hi2 _ ‹_›) (hi1 _ ‹_›)
    · cases hn
  · rw [e]
    simp only [orSrc, hd]
    exact ⟨Nat.zero_le _, fun n hn => Nat.le_trans (unionLoop_length _ _) (binSizeHi_bound l r hl hr n hn)⟩

theorem xor_hints (l r : Src) (hl : l.HintOkAll) (hr : r.HintOkAll) (cl : Canon l.items) (cr : Canon r.items) :
    (xorSrc l r).HintOkAll := by
  have sp := xorLoop_spec l.items r.items 0 cl cr
  refine ⟨⟨fun q hq => ?_, Nat.zero_le _, fun n hn => ?_⟩, trivial⟩
  · exact orLast_ok l r hl.1 hr.1 _ sp.1 (fun x hx => Classical.or_iff_not_imp_right.2 ((sp.2 x).1 hx).2) q
      (xorLast_ok hq).1
  · exact Nat.le_trans (xorLoop_length _ _) (binSizeHi_bound l r hl hr n hn)

theorem minus_hints (l r : Src) (hl : l.HintOkAll) (hr : r.HintOkAll) (cl : Canon l.items) (cr : Canon r.items) :
    (minusSrc l r).HintOkAll := by
  refine ⟨⟨fun _ => nofun, Nat.zero_le _, fun n hn => ?_⟩, trivial⟩
  show (minusItems l r).length ≤ n
  rw [minusItems_eq l r hl.1 hr.1 cl cr]
  exact Nat.le_trans (minusLoop_length _ _) (binSizeHi_bound l r hl hr n hn)

theorem not_hints (ub : Nat) (s : Src) (hs : s.HintOkAll) (cs : Canon s.items) (hb : BoundedBy ub s.items) :
    (notSrc ub s).HintOkAll := by
  obtain ⟨hrem, e⟩ := Src.afterNexts_ok (notConsumed ub s.items) s hs
  obtain ⟨-, hlo, hhi⟩ := hrem.1
  rw [e] at hlo hhi
  have nb := not_bounds ub s.items cs hb
  unfold notSrc
  split
  · rename_i hcur
    obtain ⟨b1, b2⟩ := nb.1 hcur
    refine ⟨⟨fun _ => nofun, Nat.le_trans (Nat.succ_le_succ hlo) b1, fun n hn => ?_⟩, trivial⟩
    obtain ⟨m, hm, rfl⟩ := Option.map_eq_some_iff.1 hn
    exact Nat.le_trans b2 (Nat.add_le_add_right (hhi m hm) 2)
  · rename_i hcur
    refine ⟨⟨fun _ => nofun, Nat.zero_le _, fun n hn => ?_⟩, trivial⟩
    show (complement ub s.items).length ≤ n
    rw [nb.2 (by simpa using hcur)]
    exact Nat.zero_le _

theorem degrade_hints (sh nd : Nat) (s : Src) : (degradeSrc sh nd s).HintOkAll := by
  unfold degradeSrc
  split <;> exact ⟨⟨fun _ => nofun, Nat.zero_le _, fun _ => nofun⟩, trivial⟩

theorem check_hints (s : Src) (hs : s.HintOkAll) : (checkSrc s).HintOkAll ∧ (checkSrc s).items = s.items := by
  have lo := (s.length_bounds_of_afterNext hs).1
  unfold checkSrc
  split
  · rename_i he
    refine ⟨⟨⟨hs.1.1, Nat.zero_le _, fun n hn => ?_⟩, trivial⟩, rfl⟩
    show s.items.length ≤ n
    rw [List.isEmpty_iff.1 he]; exact Nat.zero_le _
  · rename_i he
    rw [if_neg he, Nat.add_comm] at lo
    refine ⟨⟨⟨hs.1.1, lo, fun n hn => ?_⟩, trivial⟩, rfl⟩
    obtain ⟨m, hm, rfl⟩ := Option.map_eq_some_iff.1 hn
    exact s.length_le_of_afterNext_hi hs hm

/-- **Programs.** For every operator tree over and / or / xor / minus / not / degrade, every
    assignment of valid leaves, and EVERY consistent hint configuration of the leaf sources
    (those that advertise `peek_last` / exact sizes and those that do not), the lazy iterator tree
    yields exactly the ranges and the depth of the eager evaluation, and the hints the tree itself
    advertises are consistent with what it yields. -/
theorem lazy_eq_eager (q : Qty) (w : Nat) (h0 : 0 < q.nCellsMax w) (e : Expr)
    (hl : e.LeavesOk q w) (hd : e.DepthsOk q w) :
    (evalL q w e).items = (evalE q w e).2 ∧ (evalL q w e).depth = (evalE q w e).1 ∧
    (evalL q w e).HintOkAll := by
  -- carried through the induction: same ranges, same depth, and the node's own hints are consistent, so that the
  -- fast paths of the operator above it are sound too
  have canon : ∀ a : Expr, a.LeavesOk q w → a.DepthsOk q w → (evalL q w a).items = (evalE q w a).2 →
      Canon (evalL q w a).items := fun a hl hd h => h ▸ (evalE_valid q w h0 a hl hd).1.1
  induction e with
  | leaf s => exact ⟨rfl, rfl, hl.2⟩
  | and a b iha ihb =>
    obtain ⟨ia, da, ha⟩ := iha hl.1 hd.1; obtain ⟨ib, db, hb⟩ := ihb hl.2 hd.2
    have va := canon a hl.1 hd.1 ia; have vb := canon b hl.2 hd.2 ib
    exact ⟨(andSrc_items _ _ ha.1 hb.1 va vb).trans (by rw [ia, ib]; rfl),
      by show max _ _ = max _ _; rw [da, db], and_hints _ _ ha hb va vb⟩
  | or a b iha ihb =>
    obtain ⟨ia, da, ha⟩ := iha hl.1 hd.1; obtain ⟨ib, db, hb⟩ := ihb hl.2 hd.2
    have va := canon a hl.1 hd.1 ia; have vb := canon b hl.2 hd.2 ib
    exact ⟨(orSrc_items _ _ hb.1 va vb).trans (by rw [ia, ib]; rfl),
      by show max _ _ = max _ _; rw [da, db], or_hints _ _ ha hb va vb⟩
  | xor a b iha ihb =>
    obtain ⟨ia, da, ha⟩ := iha hl.1 hd.1; obtain ⟨ib, db, hb⟩ := ihb hl.2 hd.2
    have va := canon a hl.1 hd.1 ia; have vb := canon b hl.2 hd.2 ib
    exact ⟨by show xorLoop _ _ = xorLoop _ _; rw [ia, ib],
      by show max _ _ = max _ _; rw [da, db], xor_hints _ _ ha hb va vb⟩
  | minus a b iha ihb =>
    obtain ⟨ia, da, ha⟩ := iha hl.1 hd.1; obtain ⟨ib, db, hb⟩ := ihb hl.2 hd.2
    have va := canon a hl.1 hd.1 ia; have vb := canon b hl.2 hd.2 ib
    have va' := (evalE_valid q w h0 a hl.1 hd.1).1.1; have vb' := (evalE_valid q w h0 b hl.2 hd.2).1.1
    refine ⟨?_, by show max _ _ = max _ _; rw [da, db], minus_hints _ _ ha hb va vb⟩
    -- the eager `minus` collects the lazy one over borrowed sources: both are the plain loop
    show minusItems _ _ = minusItems (borrowedSrc _ _) (borrowedSrc _ _)
    rw [minusItems_eq _ _ ha.1 hb.1 va vb,
      minusItems_eq _ _ (borrowedSrc_hintOk _ _ va') (borrowedSrc_hintOk _ _ vb') va' vb', ia, ib]
    rfl
  | not a iha =>
    obtain ⟨ia, da, ha⟩ := iha hl hd
    have va := (evalE_valid q w h0 a hl hd).1
    exact ⟨(notSrc_items _ _).trans (by rw [ia]; rfl), (notSrc_depth _ _).trans (by rw [da]; rfl),
      not_hints _ _ ha (ia ▸ va.1) (ia ▸ va.2.1)⟩
  | degrade nd a iha =>
    obtain ⟨ia, da, ha⟩ := iha hl hd.2
    have va := (evalE_valid q w h0 a hl hd.2).1
    refine ⟨?_, (degradeSrc_depth _ _ _).trans (by rw [da]; rfl), degrade_hints _ _ _⟩
    show (degradeSrc _ nd _).items = degradedShift _ _
    rw [degradeSrc_items _ _ _ (ia ▸ va.1), ia, da]
    split
    · rfl
    · exact (degraded_deeper_eq q w _ nd _ va (by omega)).symm

theorem or_last_exact (l r : Src) (hl : l.HintOkAll) (hr : r.HintOkAll) (el : l.LastExact) (er : r.LastExact)
    (cl : Canon l.items) (cr : Canon r.items) : (orSrc l r).LastExact := by
  have e : (orSrc l r).items = unionLoop l.items r.items := orItems_eq l r hr.1 cl cr
  have sp := unionLoop_spec l.items r.items 0 0 cl cr
  intro q hq
  rw [e]
  exact lastExact_of_orLast hl.1 hr.1 sp.1 (fun x hx => (sp.2 x).1 hx) hq
    ((sp.2 _).2 (mem_pred_orLast hl.1 hr.1 el er cl cr hq).1)

theorem xor_last_exact (l r : Src) (hl : l.HintOkAll) (hr : r.HintOkAll) (el : l.LastExact) (er : r.LastExact)
    (cl : Canon l.items) (cr : Canon r.items) : (xorSrc l r).LastExact := by
  have sp := xorLoop_spec l.items r.items 0 cl cr
  intro q hq
  obtain ⟨hq', hne⟩ := xorLast_ok hq
  have ⟨hor, hnand⟩ := mem_pred_orLast hl.1 hr.1 el er cl cr hq'
  exact lastExact_of_orLast hl.1 hr.1 sp.1 (fun x hx => Classical.or_iff_not_imp_right.2 ((sp.2 x).1 hx).2) hq'
    ((sp.2 _).2 ⟨fun a b => hnand hne ⟨a, b⟩, hor.resolve_right⟩)

/-- **`peek_last` is exact** (its documented contract, `Src.LastExact`): every node of every lazy operator tree
    whose leaves announce an exact last range (or none) announces an exact last range (or none) — in particular a
    node that announces one does yield ranges.  `xor` had copied the formula of `or` (the larger of the two ends),
    which is wrong whenever both operands end at the same index (/repo "fix: XorRangeIter::peek_last"). -/
theorem lazy_last_exact (q : Qty) (w : Nat) (h0 : 0 < q.nCellsMax w) (e : Expr)
    (hl : e.LeavesOk q w) (hd : e.DepthsOk q w) (hx : e.LeavesLastExact) : (evalL q w e).LastExact := by
  have canon : ∀ a : Expr, a.LeavesOk q w → a.DepthsOk q w → Canon (evalL q w a).items := fun a hl hd =>
    (lazy_eq_eager q w h0 a hl hd).1 ▸ (evalE_valid q w h0 a hl hd).1.1
  induction e with
  | leaf s => exact hx
  | and a b _ _ | minus a b _ _ => exact fun _ => nofun
  | not a _ => show (notSrc _ _).LastExact; unfold notSrc; split <;> exact fun _ => nofun
  | degrade nd a _ => show (degradeSrc _ _ _).LastExact; unfold degradeSrc; split <;> exact fun _ => nofun
  | or a b iha ihb =>
    exact or_last_exact _ _ (lazy_eq_eager q w h0 a hl.1 hd.1).2.2 (lazy_eq_eager q w h0 b hl.2 hd.2).2.2
      (iha hl.1 hd.1 hx.1) (ihb hl.2 hd.2 hx.2) (canon a hl.1 hd.1) (canon b hl.2 hd.2)
  | xor a b iha ihb =>
    exact xor_last_exact _ _ (lazy_eq_eager q w h0 a hl.1 hd.1).2.2 (lazy_eq_eager q w h0 b hl.2 hd.2).2.2
      (iha hl.1 hd.1 hx.1) (ihb hl.2 hd.2 hx.2) (canon a hl.1 hd.1) (canon b hl.2 hd.2)

theorem check_convert_last_exact (sh md : Nat) (s : Src) (e : s.LastExact) :
    (checkSrc s).LastExact ∧ (convertSrc sh md s).LastExact := by
  refine ⟨by unfold checkSrc; split <;> exact e, fun q hq => ?_⟩
  simp only [convertSrc, Option.map_eq_some_iff] at hq
  obtain ⟨q0, h0, rfl⟩ := hq
  obtain ⟨c, hc, he⟩ := e q0 h0
  exact ⟨(c.1 <<< sh, c.2 <<< sh), by simp [convertSrc, List.getLast?_map, hc], by simp [he]⟩
/-- The executable judge of the exact-last contract is the predicate. -/
theorem lastExactB_iff (s : Src) : s.lastExactB true = true ↔ s.LastExact := by
  unfold Src.lastExactB Src.LastExact
  cases s.last <;> cases s.items.getLast? <;> simp
/-- What `xor([0..10], [5..10])` answered before the repair (ranges `[0..5]`, announced last range `0..10`) does
    not meet the contract; a source that meets it (non-vacuity). -/
example : ¬ (⟨0, [(0, 5)], some (0, 10), 0, none, []⟩ : Src).LastExact := by
  intro h
  obtain ⟨c, hc, he⟩ := h (0, 10) rfl
  simp at hc; subst hc; simp at he
example : (⟨0, [(0, 5), (7, 10)], some (2, 10), 0, none, []⟩ : Src).LastExact := by
  intro q hq; exact ⟨(7, 10), rfl, by cases hq; rfl⟩

/-- **`overlapped_by`** (the iterator behind `overlapped_by_iter`; repaired `size_hint`, /repo 7641c6f): it yields a sub-list
    of the left ranges, so — one left range being held by the iterator — the upper bound of the left source after its first
    `next()`, plus one, bounds what it yields.  The former hint forwarded the bounds of the left source as they were: upper
    bound one too small, lower bound unjustified. -/
theorem overlapped_by_hint_sound (l r : Src) (hl : l.HintOkAll) (cl : Canon l.items) (cr : Canon r.items) :
    overlappedBy l.items r.items = l.items.filter (meetsB r.items) ∧
    ∀ n, l.afterNext.hi = some n → (overlappedBy l.items r.items).length ≤ n + 1 := by
  have e := Moc.overlappedBy_eq l.items r.items cl cr
  refine ⟨e, fun n hn => ?_⟩
  rw [e]
  exact Nat.le_trans (List.length_filter_le _ _) (l.length_le_of_afterNext_hi hl hn)

/-- The serialiser's decision (`size_hint` min = max ⇒ stream with a pre-computed `NAXIS2`) is sound. -/
theorem exact_hint_is_length (s : Src) (hs : s.HintOk) (n : Nat) (h : s.lo = n ∧ s.hi = some n) :
    s.items.length = n := by
  have h1 := hs.2.1
  have h2 := hs.2.2 n h.2
  omega

/-! Non-vacuity -/
example : (⟨2, [(0, 4), (8, 12)], some (8, 12), 2, some 2, [(1, some 1), (0, some 0)]⟩ : Src).HintOkAll :=
  ⟨(hintOkB_iff _).1 (by decide), by simp [laterOk]⟩
example : (Expr.or (.leaf ⟨2, [(0, 2048)], none, 0, none, []⟩)
    (.not (.leaf ⟨2, [(0, 2048)], some (0, 2048), 1, some 1, []⟩))).LeavesOk Params.time 16 :=
  ⟨⟨(Moc.validB_iff _ _ _ _).1 (by decide), (hintOkB_iff _).1 (by decide), trivial⟩,
    (Moc.validB_iff _ _ _ _).1 (by decide), (hintOkB_iff _).1 (by decide), trivial⟩

end Moc.C04
