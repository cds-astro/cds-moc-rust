/-
  C15 — moc-set queries return exactly the matching identifiers.
  The query model IS the specification on covered sets (`msQuery`); the theorems show that the
  answers of its predicates are exactly "intersects" / "contains the region" and that the repaired
  conversion of a query region for MOCs stored on 32 bits (degrade to depth 13 first) is EXACT,
  whatever the depth and alignment of the region.
-/
import MocVerif.Lemmas.Query
import MocVerif.Lemmas.Degrade
import MocVerif.Lemmas.Valid
import MocVerif.Model.MocSet
import MocVerif.Props.C06

namespace Moc.C15

/-- Intersect mode answers "a common index exists"; included mode answers "region ⊆ MOC". -/
theorem query_predicates (m region : List Rng) (hm : Canon m) (hr : Canon region) :
    (intersects m region = true ↔ ∃ y, mem y m ∧ mem y region) ∧
    (containsAll m region = true ↔ ∀ y, mem y region → mem y m) :=
  ⟨intersects_iff m region hm hr, containsAll_iff m region hm hr⟩

/-- Degrading the region to the storage depth is exact for intersection: for every MOC aligned on cells of size `2^sh`
    (stored at a depth ≤ 13 when `sh = 32`) and every region, be it smaller than a storage cell, strictly inside one,
    or touching only the first or last cell of a range. -/
theorem degrade_exact_intersects (sh : Nat) (m region : List Rng) (hm : Canon m) (hr : Canon region)
    (ha : Aligned (2 ^ sh) m) :
    intersects m (degradedShift sh region) = intersects m region := by
  have sp := degradedShift_spec sh region hr
  have hcl := cellClosed_of_aligned (2 ^ sh) (Nat.two_pow_pos _) m ha
  rw [Bool.eq_iff_iff, intersects_iff m _ hm sp.1, intersects_iff m region hm hr]
  constructor
  · rintro ⟨x, hxm, hxd⟩
    obtain ⟨y, hy, hxy⟩ := (sp.2 x).1 hxd
    exact ⟨y, hcl x y hxy hxm, hy⟩
  · rintro ⟨y, hym, hyr⟩
    exact ⟨y, hym, (sp.2 y).2 ⟨y, hyr, rfl⟩⟩

theorem degrade_exact_included (sh : Nat) (m region : List Rng) (hm : Canon m) (hr : Canon region)
    (ha : Aligned (2 ^ sh) m) :
    containsAll m (degradedShift sh region) = containsAll m region := by
  have sp := degradedShift_spec sh region hr
  have hcl := cellClosed_of_aligned (2 ^ sh) (Nat.two_pow_pos _) m ha
  rw [Bool.eq_iff_iff, containsAll_iff m _ hm sp.1, containsAll_iff m region hm hr]
  constructor
  · intro h y hy
    exact h y ((sp.2 y).2 ⟨y, hy, rfl⟩)
  · intro h x hx
    obtain ⟨y, hy, hxy⟩ := (sp.2 x).1 hx
    exact hcl y x hxy.symm (h y hy)

/-- Hence the degraded region is exactly representable on 32 bits (`sh = 32`: its bounds are multiples of `2^32`). -/
theorem degraded_region_aligned (sh : Nat) (region : List Rng) (hr : Canon region) :
    Aligned (2 ^ sh) (degradedShift sh region) := by
  have sp := degradedShift_spec sh region hr
  rw [aligned_iff_cellClosed _ (Nat.two_pow_pos _) _ sp.1]
  intro x y hxy hx
  obtain ⟨z, hz, hxz⟩ := (sp.2 x).1 hx
  exact (sp.2 y).2 ⟨z, hz, hxy ▸ hxz⟩

/-- The defect of the original code: flooring both bounds of a region lying strictly inside one storage cell gives an
    empty range, so a MOC covering that cell was missed. -/
theorem original_floor_counterexample :
    let cell := 2 ^ 32
    let region : Rng := (5 * cell + 7, 5 * cell + 9)          -- inside storage cell 5
    (region.1 >>> 32, region.2 >>> 32) = (5, 5) ∧              -- floored on 32 bits: empty range
    intersects [(5 * cell, 6 * cell)] [region] = true := by
  refine ⟨by decide, ?_⟩
  simp [intersects, intersectsLoop, lastEndD, startIdx]

/-- `query` returns exactly the identifiers of the selected entries, in file order: the selection predicate
    is the one `union` uses. -/
theorem query_is_selection (s : MocSet) (region : List Rng) (inc dep : Bool) :
    msQuery s region inc dep = (s.entries.filter (msSelected region inc dep)).map (·.id) := rfl

/-- `query pos`, `x` the position's deepest-level index; status 3 is valid, 2 deprecated. -/
theorem queryPos_sem (s : MocSet) (x : Nat) (dep : Bool) (hs : ∀ e ∈ s.entries, Canon e.ranges) (id : Nat) :
    id ∈ msQueryPos s x dep ↔
      ∃ e ∈ s.entries, e.id = id ∧ (e.status = 3 ∨ (dep = true ∧ e.status = 2)) ∧ mem x e.ranges := by
  unfold msQueryPos
  simp only [List.mem_map, List.mem_filter, Bool.and_eq_true, Bool.or_eq_true, beq_iff_eq]
  constructor
  · rintro ⟨e, ⟨he, hst, hc⟩, rfl⟩
    exact ⟨e, he, rfl, hst, (containsVal_iff e.ranges (hs e he) x).1 hc⟩
  · rintro ⟨e, he, rfl, hst, hm⟩
    exact ⟨e, ⟨he, hst, (containsVal_iff e.ranges (hs e he) x).2 hm⟩, rfl⟩

/-- `union` is what the tool's `RangeMocBuilder` computes from the ranges of the selected MOCs pushed one after the
    other, for every buffer capacity. -/
theorem unionAt_is_builder (sh cap : Nat) (es : List MsEntry) (hs : ∀ e ∈ es, Canon e.ranges) :
    unionAt sh es = fromMaxdepthRanges sh cap (es.flatMap (·.ranges)) := by
  unfold unionAt
  rw [C06.rangeBuilder_build]
  intro r hr
  obtain ⟨e, he, hre⟩ := List.mem_flatMap.1 hr
  exact canon_nonempty (hs e he) r hre

/-- Hence the union of the selected MOCs at the requested output depth (`sh` its shift). -/
theorem unionAt_sem (sh : Nat) (es : List MsEntry) (hs : ∀ e ∈ es, Canon e.ranges) :
    Canon (unionAt sh es) ∧
    ∀ x, mem x (unionAt sh es) ↔ ∃ e ∈ es, ∃ y, mem y e.ranges ∧ x / 2 ^ sh = y / 2 ^ sh := by
  rw [unionAt_is_builder sh 0 es hs]
  have b := C06.rangeBuilder_sem_all sh 0 (es.flatMap (·.ranges))
  refine ⟨b.1, fun x => ?_⟩
  rw [b.2, exists_mem_range]
  simp only [mem_flatMap]
  exact ⟨fun ⟨y, ⟨e, he, hy⟩, h⟩ => ⟨e, he, y, hy, h⟩, fun ⟨e, he, y, hy, h⟩ => ⟨y, ⟨e, he, hy⟩, h⟩⟩

/-- `union … moc` / `cone`: the MOCs united are exactly the ones `query` reports. -/
theorem union_query_same_selection (s : MocSet) (region : List Rng) (inc dep : Bool) (sh : Nat) :
    msUnionQuery s region inc dep sh = unionAt sh (s.entries.filter (msSelected region inc dep)) ∧
    msQuery s region inc dep = (s.entries.filter (msSelected region inc dep)).map (·.id) := ⟨rfl, rfl⟩

/-! Non-vacuity -/
example : alignedB (2 ^ 32) [(5 * 2 ^ 32, 6 * 2 ^ 32)] = true ∧ Canon [(5 * 2 ^ 32 + 7, 5 * 2 ^ 32 + 9)] := by
  decide

end Moc.C15
