/-
  C17 — expansion, contraction, borders, splitting and hole filling obey their definitions.
  Time / Frequency: expansion adds the previous and next depth-`d` cell of each cell, clipped to the domain; contraction
  (repaired at the domain bounds) is `complement ∘ expanded ∘ complement` (`tf_contracted_dual`), which the original
  formula is not (`original_contracted_counterexample`).
  Space (HEALPix): modelled over an adjacency relation given as data (`Model/Graph.lean`; the harness sends the
  neighbour lists of cdshealpix — the geometry itself is the trusted parameter): the theorems say that the model
  functions are the property's definitions for every adjacency and every cell set.
-/
import MocVerif.Lemmas.Morpho
import MocVerif.Lemmas.ValidOps
import MocVerif.Model.Params
import MocVerif.Lemmas.Graph
import MocVerif.Lemmas.FillHoles

namespace Moc.C17

/-- T/F `expanded` for every valid MOC (`c` = cell size of its depth, `ub` = `n_cells_max`). -/
theorem tf_expanded_sem (c ub : Nat) (hc : 0 < c) (m : List Rng) (hm : Canon m)
    (hb : BoundedBy ub m) (ha : Aligned c m) (hub : c ∣ ub) :
    Canon (tfExpanded c ub m) ∧
    ∀ x, mem x (tfExpanded c ub m) ↔
      x < ub ∧ ∃ y, mem y m ∧ x / c ≤ y / c + 1 ∧ y / c ≤ x / c + 1 := by
  have hs := hm.map_sorted (fun _ _ h => Nat.sub_le_sub_right h c) (tfGrow_fst c ub) fun r h =>
    tfGrow_fst c ub r ▸ Nat.lt_of_le_of_lt (Nat.sub_le _ _) (Nat.lt_of_lt_of_le h (le_tfGrow_snd c ub r))
  have sp := mergeOverlapping_spec _ (hs.mono (Nat.zero_le _))
  refine ⟨sp.1, fun x => ?_⟩
  unfold tfExpanded mergeSorted
  rw [sp.2, mem_map_iff, ← exists_mem_range m]
  refine Iff.trans (exists_congr fun r => and_congr_right fun hr =>
    mem_tfGrow c ub hc r (canon_nonempty hm r hr) (hb r hr) (ha r hr).1 (ha r hr).2 hub x) ?_
  exact ⟨fun ⟨r, hr, h0, h⟩ => ⟨h0, r, hr, h⟩, fun ⟨h0, r, hr, h⟩ => ⟨r, hr, h0, h⟩⟩

/-- Instantiated on the quantities of the library: a valid T- or F-MOC of depth `d`. -/
theorem tf_expanded_valid_moc (q : Qty) (w d : Nat) (m : List Rng) (hv : Valid q w d m) :
    Canon (tfExpanded (q.cellSize w d) (q.nCellsMax w) m) ∧
    ∀ x, mem x (tfExpanded (q.cellSize w d) (q.nCellsMax w) m) ↔
      x < q.nCellsMax w ∧ ∃ y, mem y m ∧ x / q.cellSize w d ≤ y / q.cellSize w d + 1 ∧
        y / q.cellSize w d ≤ x / q.cellSize w d + 1 :=
  tf_expanded_sem _ _ (q.cellSize_pos w d) m hv.1 hv.2.1 hv.2.2 (q.cellSize_dvd_nCellsMax w d)

/-- T/F `contracted` (repaired): a point of a range survives iff it is at least one cell away from each end of the
    range that is not a domain bound. -/
theorem tf_contracted_range (c ub : Nat) (r : Rng) (x : Nat) :
    (∃ s, tfShrink c ub r = some s ∧ s.1 ≤ x ∧ x < s.2) ↔
      ((r.1 > 0 → r.1 + c ≤ x) ∧ (r.1 = 0 → r.1 ≤ x) ∧ (r.2 < ub → x + c < r.2) ∧ (¬ r.2 < ub → x < r.2)) := by
  rw [mem_tfShrink, ite_rel_iff (· ≤ x), ite_rel_iff (x < ·), Nat.lt_sub_iff_add_lt, and_assoc, Nat.not_lt,
    Nat.le_zero_eq]

/-- T/F `contracted` (repaired) on a whole MOC.  The neighbourhood of a point is one interval, and a covered interval of
    a canonical list lies inside one range (`covered_iff_one_range`). -/
theorem tf_contracted_sem (c ub : Nat) (hc : 0 < c) (m : List Rng) (hm : Canon m)
    (hb : BoundedBy ub m) (ha : Aligned c m) (hub : c ∣ ub) :
    Canon (tfContracted c ub m) ∧
    ∀ x, mem x (tfContracted c ub m) ↔
      x < ub ∧ ∀ y, y < ub → x / c ≤ y / c + 1 → y / c ≤ x / c + 1 → mem y m := by
  refine ⟨tfContracted_canon c ub hm, fun x => ?_⟩
  rw [mem_tfContracted, nbhd_iff hc hub]
  constructor
  · rintro ⟨r, hr, h⟩
    rw [mem_tfShrink, shrink_lo hc (ha r hr).1, shrink_hi hc (ha r hr).2 hub (hb r hr)] at h
    exact ⟨h.2.1, (covered_iff_one_range m 0 hm _ _ (nbhd_nonempty hc hub h.2.1)).2 ⟨r, hr, h.1, h.2.2⟩⟩
  · rintro ⟨hx, h⟩
    obtain ⟨r, hr, r1, r2⟩ := (covered_iff_one_range m 0 hm _ _ (nbhd_nonempty hc hub hx)).1 h
    exact ⟨r, hr, (mem_tfShrink c ub r x).2
      ⟨(shrink_lo hc (ha r hr).1 x).2 r1, (shrink_hi hc (ha r hr).2 hub (hb r hr) x).2 ⟨hx, r2⟩⟩⟩

/-- An equality of range lists: both sides are canonical and cover the same points. -/
theorem tf_contracted_dual (q : Qty) (w d : Nat) (h0 : 0 < q.nCellsMax w) (m : List Rng) (hv : Valid q w d m) :
    tfContracted (q.cellSize w d) (q.nCellsMax w) m =
      complement (q.nCellsMax w) (tfExpanded (q.cellSize w d) (q.nCellsMax w) (complement (q.nCellsMax w) m)) := by
  have hc := q.cellSize_pos w d
  have hub := q.cellSize_dvd_nCellsMax w d
  have c1 := tf_contracted_sem _ _ hc m hv.1 hv.2.1 hv.2.2 hub
  have vc := valid_complement q w d m h0 hv
  have sc := complement_spec (q.nCellsMax w) m h0 hv.1 hv.2.1
  have e1 := tf_expanded_sem _ _ hc _ vc.1 vc.2.1 vc.2.2 hub
  have hbe : BoundedBy (q.nCellsMax w) (tfExpanded (q.cellSize w d) (q.nCellsMax w) (complement (q.nCellsMax w) m)) :=
    (boundedBy_iff _ _ 0 e1.1).2 fun x hx => ((e1.2 x).1 hx).1
  have s2 := complement_spec (q.nCellsMax w) _ h0 e1.1 hbe
  refine Canon.ext c1.1 s2.1 (fun x => ?_)
  rw [c1.2, s2.2, e1.2]
  constructor
  · rintro ⟨hx, hall⟩
    exact ⟨hx, fun ⟨_, y, hy, k1, k2⟩ => ((sc.2 y).1 hy).2 (hall y ((sc.2 y).1 hy).1 k1 k2)⟩
  · rintro ⟨hx, hno⟩
    exact ⟨hx, fun y hy k1 k2 => Classical.byContradiction fun hnm => hno ⟨hx, y, (sc.2 y).2 ⟨hy, hnm⟩, k1, k2⟩⟩

/-- The defect found in the original code, about the original formula: shrinking both ends unconditionally disagrees
    with `complement ∘ expanded ∘ complement` on `[0, 10·c)`. -/
theorem original_contracted_counterexample :
    let c := 1; let ub := 100
    (1, 9) ≠ ((0 : Nat), (9 : Nat)) ∧
    complement ub (tfExpanded c ub (complement ub [(0, 10)])) = [(0, 9)] := by
  refine ⟨by decide, ?_⟩
  simp [complement, complFrom, tfExpanded, mergeSorted, mergeOverlapping, mergeOvFrom, tfGrow]

section Space
open Moc.Graph

theorem space_expanded_sem (g : Adj) (s : List Nat) (x : Nat) :
    x ∈ Graph.expanded g s ↔ x ∈ s ∨ ∃ c ∈ s, x ∈ nbrs g c := mem_expanded g s x

/-- `complement ∘ expanded ∘ complement`, for `M ⊆ univ`: the cells of `M` that no cell outside `M` is adjacent to. -/
theorem space_contracted_sem (g : Adj) (univ s : List Nat) (hs : ∀ x ∈ s, x ∈ univ) (x : Nat) :
    x ∈ Graph.contracted g univ s ↔ x ∈ s ∧ ∀ c ∈ univ, c ∉ s → x ∉ nbrs g c := by
  unfold contracted
  rw [mem_norm, mem_filter_not_contains, mem_expanded]
  simp only [mem_filter_not_contains, not_or, not_and, not_exists, Decidable.not_not]
  exact ⟨fun ⟨hu, h1, h2⟩ => ⟨h1 hu, fun c hc hcs => h2 c ⟨hc, hcs⟩⟩,
    fun ⟨hx, h⟩ => ⟨hs x hx, fun _ => hx, fun c hc => h c hc.1 hc.2⟩⟩

theorem space_borders (g : Adj) (univ s : List Nat) (x : Nat) :
    (x ∈ extBorder g s ↔ x ∉ s ∧ ∃ c ∈ s, x ∈ nbrs g c) ∧
    (x ∈ intBorder g univ s ↔ x ∈ s ∧ x ∉ Graph.contracted g univ s) :=
  ⟨mem_extBorder g s x, mem_intBorder g univ s x⟩

theorem space_split_correct (g : Adj) (s : List Nat) : IsSplit g s (splitAll g s) :=
  split_spec g s.length s (Nat.le_refl _)

theorem space_split_cover (g : Adj) (s : List Nat) (x : Nat) :
    x ∈ s ↔ ∃ comp ∈ splitAll g s, x ∈ comp := (space_split_correct g s).cover x

/-- One direction only: no cell of a part has a neighbour in a LATER part; for a symmetric adjacency such as HEALPix
    neighbourhood, no two parts are adjacent. -/
theorem space_split_separated (g : Adj) (s : List Nat) :
    (splitAll g s).Pairwise fun a b => (∀ x ∈ a, x ∉ b) ∧ ∀ x ∈ a, ∀ n ∈ nbrs g x, n ∉ b :=
  (space_split_correct g s).separated

/-- `fill_holes(except_n_largest)` adds exactly the components of the complement other than the `1 + n` largest. -/
theorem fill_holes_spec (g : Adj) (univ s : List Nat) (n x : Nat) :
    x ∈ fillHoles g univ s n ↔ x ∈ s ∨ ∃ comp ∈ (holesSorted g univ s).drop (1 + n), x ∈ comp := by
  unfold fillHoles
  rw [mem_norm, List.mem_append, List.mem_flatten]

/-- Every component left alone is at least as large as every component that is filled. -/
theorem fill_holes_largest_kept (g : Adj) (univ s : List Nat) (n : Nat) :
    (∀ c, c ∈ holesSorted g univ s ↔ c ∈ splitAll g (univ.filter fun y => !s.contains y)) ∧
    (holesSorted g univ s).length = (splitAll g (univ.filter fun y => !s.contains y)).length ∧
    ∀ a ∈ (holesSorted g univ s).take (1 + n), ∀ b ∈ (holesSorted g univ s).drop (1 + n), b.length ≤ a.length :=
  ⟨fun _ => (sortBySize_perm _).mem_iff, (sortBySize_perm _).length_eq, pairwise_take_drop (sortBySize_desc _) (1 + n)⟩

theorem fill_holes_superset (g : Adj) (univ s : List Nat) (n : Nat) :
    (∀ x ∈ s, x ∈ fillHoles g univ s n) ∧
    (∀ x ∈ fillHoles g univ s n, x ∈ s ∨ (x ∈ univ ∧ x ∉ s)) := by
  refine ⟨fun x hx => (fill_holes_spec g univ s n x).2 (.inl hx), ?_⟩
  intro x hx
  rcases (fill_holes_spec g univ s n x).1 hx with h | ⟨comp, hc, hxc⟩
  · exact .inl h
  · right
    have hc' : comp ∈ splitAll g (univ.filter fun y => !s.contains y) :=
      (sortBySize_perm _).mem_iff.1 (List.mem_of_mem_drop hc)
    exact (mem_filter_not_contains x univ s).1
      ((space_split_cover g (univ.filter fun y => !s.contains y) x).2 ⟨comp, hc', hxc⟩)

/-- `fill_holes_smaller_than`, `k` being the number of cells the sky fraction amounts to. -/
theorem fill_holes_smaller_spec (g : Adj) (univ s : List Nat) (k x : Nat) :
    x ∈ fillHolesSmaller g univ s k ↔
      x ∈ s ∨ ∃ comp ∈ splitAll g (univ.filter fun y => !s.contains y), comp.length ≤ k ∧ x ∈ comp := by
  unfold fillHolesSmaller
  simp only [mem_norm, List.mem_append, List.mem_flatten, List.mem_filter, decide_eq_true_eq, and_assoc]

/-! Non-vacuity: a path 0–1–2 and an isolated cell 5. -/
example : splitAll [(0, [1]), (1, [0, 2]), (2, [1]), (5, [])] [0, 1, 2, 5] = [[0, 1, 2], [5]] := by decide

end Space

/-! Non-vacuity -/
example : Valid Params.time 16 2 [(0, 2048), (4096, 6144)] := (Moc.validB_iff _ _ _ _).1 (by decide)
example : tfContracted 1 100 [(0, 10), (20, 22), (30, 100)] = [(0, 9), (31, 100)] := by decide

end Moc.C17
