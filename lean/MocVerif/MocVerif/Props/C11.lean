/-
  C11 — space-time MOC serialisation: the FITS v2 row encoding is inverted exactly (`fits_st_roundtrip`), for
  every list of elements whose time part and space part are non-empty and whose space rows are not flagged (space
  indices below 2^(w-1): true of every HEALPix index).  The non-empty space part is necessary
  (`fits_st_needs_space`): an element without one is fused with the next, which is why the library never emits one.
  Also the ST ASCII document, at the token and at the character level, and the whole ST FITS file (header cards,
  flagged rows, padding; file → rows → elements).
  Partial: the ST JSON reader (serde_json) and the pre-v2 ST FITS reader are exercised by direct round trips
  and by the model reader on the real (reduced) text.
-/
import MocVerif.Model.STCodec
import MocVerif.Model.STText
import MocVerif.Model.ST
import MocVerif.Props.C07
import MocVerif.Lemmas.TextST
import MocVerif.Lemmas.Fits
import MocVerif.Lemmas.FitsRead

namespace Moc.STCodec.C11
open Moc Moc.STCodec

def ElemOk (w : Nat) (e : Elem) : Prop :=
  e.1 ≠ [] ∧ e.2 ≠ [] ∧ ∀ r ∈ e.2, isT w r = false

theorem isT_setFlag (w : Nat) (r : Rng) : isT w (setFlag w r) = true := by
  simp [isT, setFlag]

theorem unflag_setFlag (w : Nat) (r : Rng) : unflag w (setFlag w r) = r := by
  simp [unflag, setFlag]

/-- While no space row has been read (`s = []`), flagged rows extend the time part. -/
theorem go_time (w : Nat) (ts : List Rng) (rest t : List Rng) :
    go w (ts.map (setFlag w) ++ rest) t [] = go w rest (ts.reverse ++ t) [] := by
  induction ts generalizing t with
  | nil => rfl
  | cons a ta ih =>
    simp only [List.map_cons, List.cons_append, go, isT_setFlag, ↓reduceIte, List.isEmpty_nil,
      unflag_setFlag]
    rw [ih]; simp

theorem go_space (w : Nat) (sp : List Rng) (rest t s : List Rng) (h : ∀ r ∈ sp, isT w r = false) :
    go w (sp ++ rest) t s = go w rest t (sp.reverse ++ s) := by
  induction sp generalizing s with
  | nil => rfl
  | cons a sa ih =>
    have ha := h a List.mem_cons_self
    simp only [List.cons_append, go, ha, Bool.false_eq_true, ↓reduceIte]
    rw [ih _ (fun r hr => h r (List.mem_cons_of_mem _ hr))]; simp

/-- General in the pending element `(t, s)`, `s ≠ []`, for the induction: the first flagged row closes it. -/
theorem go_elems (w : Nat) (es : List Elem) (hes : ∀ e ∈ es, ElemOk w e) :
    ∀ (t s : List Rng), s ≠ [] → go w (encodeST w es) t s = (t.reverse, s.reverse) :: es := by
  induction es with
  | nil =>
    intro t s hs
    simp [encodeST, go, hs]
  | cons e es ih =>
    intro t s hs
    have he := hes e List.mem_cons_self
    obtain ⟨t1, s1⟩ := e
    cases t1 with
    | nil => exact absurd rfl he.1
    | cons a ta =>
      -- after the first flagged row, the other time rows, then the space rows of `e`
      have hs' : s.isEmpty = false := by simpa using hs
      simp only [encodeST, encElem, List.map_cons, List.cons_append, go, isT_setFlag, ↓reduceIte, hs',
        Bool.false_eq_true, unflag_setFlag, List.append_assoc]
      rw [go_time w ta _ [a], go_space w s1 _ _ _ he.2.2,
        ih (fun x hx => hes x (List.mem_cons_of_mem _ hx)) _ _ (by simpa using he.2.1)]
      simp

/-- **FITS v2 ST rows round trip.** -/
theorem fits_st_roundtrip (w : Nat) (es : List Elem) (hes : ∀ e ∈ es, ElemOk w e) :
    decodeST w (encodeST w es) = es := by
  cases es with
  | nil => rfl
  | cons e es' =>
    have he := hes e List.mem_cons_self
    unfold decodeST
    rw [encodeST, encElem, List.append_assoc, go_time w e.1 _ [], go_space w e.2 _ _ _ he.2.2,
      go_elems w es' (fun x hx => hes x (List.mem_cons_of_mem _ hx)) _ _ (by simpa using he.2.1)]
    simp

theorem fits_st_empty (w : Nat) : decodeST w (encodeST w []) = [] := rfl

theorem fits_st_rows (w : Nat) (es : List Elem) :
    (encodeST w es).length = (es.map fun e => e.1.length + e.2.length).sum := by
  induction es with
  | nil => rfl
  | cons e es ih => simp [encodeST, encElem, ih]; omega

/-- The hypothesis "non-empty space part" is necessary: two elements, the first without space rows,
    come back as ONE element. -/
theorem fits_st_needs_space :
    decodeST 64 (encodeST 64 [([(0, 1)], []), ([(2, 3)], [(0, 4)])]) = [([(0, 1), (2, 3)], [(0, 4)])] := by
  decide

/-! Non-vacuity: bounds using the highest usable bit. -/
example : ElemOk 64 ([(2 ^ 62, 2 ^ 62 + 5)], [(0, 4), (8, 12)]) := ⟨by decide, by decide, by decide⟩

/-! ### The whole ST FITS file -/
section FitsFile
open Moc.Fits Moc.Codec

/-- **The ST-MOC FITS file, end to end**: the file written — two header blocks (`MOCDIM = 'TIME.SPACE'`, both
    depths), one `(start, end)` row pair per range with the time ranges flagged, zero padding — is made of
    2880-byte blocks, declares `NAXIS2` = twice the number of ranges, and the rows extracted from its data bytes
    are decoded by the reader's single pass to exactly the elements written. -/
theorem fits_st_file_roundtrip (w d1 d2 : Nat) (es : List Elem) (hes : ∀ e ∈ es, ElemOk w e)
    (h1 : d1 ≤ 255) (h2 : d2 ≤ 255) (hw : w / 8 < 10 ^ 20) (hn : (encodeST w es).length <<< 1 < 10 ^ 20)
    (hfit : ∀ r ∈ encodeST w es, r.1 < 256 ^ (w / 8) ∧ r.2 < 256 ^ (w / 8)) :
    (stFile w d1 d2 (encodeST w es)).length % 2880 = 0 ∧
    (readStructure (stFile w d1 d2 (encodeST w es))).map (fun x => (x.1, x.2.1, decodeST w x.2.2))
      = some (w / 8, (encodeST w es).length <<< 1, es) := by
  obtain ⟨hb, hr⟩ := fileOf_ranges (stCards_ok w d1 d2 h1 h2) hw hn hfit
  refine ⟨hb, ?_⟩
  unfold stFile
  rw [hr, Option.map_some, fits_st_roundtrip w es hes]

/-- **The header of the ST file is read back**: the values the reader extracts from the table header of the file
    written — row width, row count, `MOCDIM = 'TIME.SPACE'`, `ORDERING`, the time depth `MOCORD_T`, the space
    depth `MOCORD_S`, `TFORM1` — are the ones of the ST-MOC. -/
theorem fits_st_file_header (w d1 d2 : Nat) (rows : List Rng) (h1 : d1 ≤ 255) (h2 : d2 ≤ 255)
    (hw : w / 8 < 10 ^ 20) (hn : rows.length <<< 1 < 10 ^ 20) :
    decodeHdrST ((((stFile w d1 d2 rows).drop 2880).take 2880).map Char.ofNat) =
      some (w / 8, rows.length <<< 1, ['T', 'I', 'M', 'E', '.', 'S', 'P', 'A', 'C', 'E'], ['R', 'A', 'N', 'G', 'E'],
            d1, d2, tform w) := by
  rw [← encodeWords_length_shift] at hn ⊢
  unfold stFile
  rw [(fileOf_parts (stCards_ok w d1 d2 h1 h2) hw hn).2.1]
  exact decodeHdrST_written w d1 d2 _ h1 h2 hw hn

/-- **`compute_n_ranges` is the number of row pairs of the ST FITS file**: the count the writer declares
    (`NAXIS2 = 2 × compute_n_ranges`) is the number of ranges it writes. -/
theorem st_row_count (w : Nat) (m : List Elem) : (encodeST w m).length = Moc.nRangesST m := by
  induction m with
  | nil => rfl
  | cons e t ih =>
    simp only [encodeST, encElem, List.length_append, List.length_map, ih, Moc.nRangesST]

end FitsFile

/-! ### ASCII serialisation of ST-MOCs (token level) -/
section Text
open Moc.STText Moc.Codec

theorem normalize_nil : normalize ([] : List Rng) = [] := Codec.normalize_nil

theorem decode_depth_only (q : Qty) (w d : Nat) (h : d ≤ q.maxDepth w ∧ d ≤ 255) :
    decodeToks q w [Tok.depth d] = .ok (d, []) :=
  decodeToks_depth q w d h

/-- **ST ASCII round trip**: for every list of elements whose time part is a valid non-empty T-MOC of depth `d1`
    and whose space part is a valid non-empty S-MOC of depth `d2`, reading the token-level document the writer
    emits (every element with the two global depths, then the depth-only element `t d1/ s d2/`) gives back
    exactly `(d1, d2, elements)` — including the empty ST-MOC, for which only the depth-only element is written. -/
theorem st_ascii_roundtrip (w d1 d2 : Nat) (elems : List STText.Elem)
    (h1 : d1 ≤ Params.time.maxDepth w ∧ d1 ≤ 255) (h2 : d2 ≤ Params.hpx.maxDepth w ∧ d2 ≤ 255)
    (hv : ∀ e ∈ elems, Valid Params.time w d1 e.1 ∧ Valid Params.hpx w d2 e.2 ∧ e.1 ≠ [] ∧ e.2 ≠ []) :
    decodeDoc w (encodeDoc w d1 d2 elems) = .ok (d1, d2, elems) :=
  decodeDoc_parts w d1 d2 (fun l => encodeToks d1 (itemsOf Params.time w d1 l))
    (fun l => encodeToks d2 (itemsOf Params.hpx w d2 l)) elems h1 h2 fun e he =>
      ⟨Moc.Codec.C07.ascii_roundtrip_moc Params.time (by decide) w d1 h1.1 h1.2 e.1 (hv e he).1,
       Moc.Codec.C07.ascii_roundtrip_moc Params.hpx (by decide) w d2 h2.1 h2.2 e.2 (hv e he).2.1, (hv e he).2.2⟩

/-! ### Character level -/

def pieceOf (w d1 d2 : Nat) (e : STText.Elem) : List Char :=
  encodeChars d1 (itemsOf Params.time w d1 e.1) ++ 's' :: encodeChars d2 (itemsOf Params.hpx w d2 e.2)

/-- The depth-only element (without the final newline). -/
def lastPiece (d1 d2 : Nat) : List Char := (showNat d1 ++ '/' :: ' ' :: 's' :: showNat d2) ++ ['/']

theorem encodeCharsST_eq (w d1 d2 : Nat) (elems : List STText.Elem) :
    encodeCharsST w d1 d2 elems
      = joinSep 't' (elems.map (pieceOf w d1 d2) ++ [lastPiece d1 d2]) ++ ['\n'] := by
  rw [joinSep_append_single]
  unfold encodeCharsST joinSep pieceOf lastPiece
  simp [List.map_map, Function.comp_def]

/-- What the lexer needs of an element: its numbers fit the index type. -/
def ElemFits (w d1 d2 : Nat) (e : STText.Elem) : Prop :=
  (∀ it ∈ itemsOf Params.time w d1 e.1, it.s < it.e ∧ it.e < 2 ^ w) ∧
  (∀ it ∈ itemsOf Params.hpx w d2 e.2, it.s < it.e ∧ it.e < 2 ^ w)

theorem go_pieces (w d1 d2 : Nat) (hd1 : d1 < 2 ^ w) (hd2 : d2 < 2 ^ w) :
    ∀ (elems : List STText.Elem), (∀ e ∈ elems, ElemFits w d1 d2 e) →
    decodeText.go w (elems.map (pieceOf w d1 d2) ++ [lastPiece d1 d2])
      = decodeDoc w (encodeDoc w d1 d2 elems) := by
  intro elems
  induction elems with
  | nil =>
    intro _
    have hs : splitOnce 's' (lastPiece d1 d2) = some (showNat d1 ++ ['/', ' '], showNat d2 ++ ['/']) := by
      have := splitOnce_append 's' (showNat d1 ++ ['/', ' ']) (showNat d2 ++ ['/'])
        (all_append (fun c h => (showNat_plain d1 c h).2) (all_cons (by decide) (all_cons (by decide) all_nil)))
      simpa [lastPiece] using this
    have a1 := decodeAscii_depthOnly Params.time w d1 hd1 [' '] (all_cons (by decide) all_nil)
    have a2 := decodeAscii_depthOnly Params.hpx w d2 hd2 [] all_nil
    simp only [List.map_nil, List.nil_append, decodeText.go, hs, encodeDoc, decodeDoc, a1, a2]
  | cons e t ih =>
    intro hf
    have hfe := hf e (by simp)
    have hs : splitOnce 's' (pieceOf w d1 d2 e)
        = some (encodeChars d1 (itemsOf Params.time w d1 e.1), encodeChars d2 (itemsOf Params.hpx w d2 e.2)) :=
      splitOnce_append 's' _ _ (fun c hc => (encodeChars_plain _ _ c hc).2)
    have a1 := Moc.Codec.C07.ascii_text_lex Params.time w d1 _ hd1 hfe.1
    have a2 := Moc.Codec.C07.ascii_text_lex Params.hpx w d2 _ hd2 hfe.2
    have iht := ih (fun x hx => hf x (by simp [hx]))
    simp only [List.map_cons, List.cons_append, decodeText.go, hs, a1, a2, iht, encodeDoc, decodeDoc]

/-- **The ST text reader inverts the ST text writer's layout, character by character**: trimming, the split on
    the `t` prefixes, the split of every element on its `s` prefix and the two 1-D lexers give the token-level
    reader applied to the token-level document. -/
theorem st_ascii_text_lex (w d1 d2 : Nat) (hd1 : d1 < 2 ^ w) (hd2 : d2 < 2 ^ w) (elems : List STText.Elem)
    (hf : ∀ e ∈ elems, ElemFits w d1 d2 e) :
    decodeText w (encodeCharsST w d1 d2 elems) = decodeDoc w (encodeDoc w d1 d2 elems) := by
  have hlast : lastPiece d1 d2 = (showNat d1 ++ '/' :: ' ' :: 's' :: showNat d2) ++ ['/'] := rfl
  unfold decodeText
  rw [encodeCharsST_eq, hlast, trimSpaces_pieces, ← hlast]
  have hsplit := splitOnChar_pieces 't' (elems.map (pieceOf w d1 d2) ++ [lastPiece d1 d2]) []
    (fun _ h => nomatch h)
    (all_append
      (fun q hq => by
        obtain ⟨e, _, rfl⟩ := List.mem_map.1 hq
        exact all_append (fun c h => (encodeChars_plain _ _ c h).1)
          (all_cons (by decide) fun c h => (encodeChars_plain _ _ c h).1))
      (all_cons
        (all_append
          (all_append (fun c h => (showNat_plain d1 c h).1)
            (all_cons (by decide) (all_cons (by decide) (all_cons (by decide) fun c h => (showNat_plain d2 c h).1))))
          (all_cons (by decide) all_nil))
        all_nil))
  rw [List.nil_append] at hsplit
  simp only [hsplit]
  have hfilt : (([] : List Char) :: (elems.map (pieceOf w d1 d2) ++ [lastPiece d1 d2])).filter
      (fun p => !p.isEmpty) = elems.map (pieceOf w d1 d2) ++ [lastPiece d1 d2] := by
    rw [List.filter_cons_of_neg (by simp)]
    exact List.filter_eq_self.2 (all_append
      (fun p hp => by obtain ⟨e, _, rfl⟩ := List.mem_map.1 hp; simp [pieceOf])
      (all_cons (by simp [lastPiece]) all_nil))
  rw [hfilt]
  exact go_pieces w d1 d2 hd1 hd2 elems hf

/-- **ST ASCII round trip at the character level**, on an index type whose cell numbers fit (`n_cells(d) < 2^w`,
    `C07.fit_instances`). -/
theorem st_ascii_text_roundtrip (w d1 d2 : Nat) (elems : List STText.Elem)
    (h1 : d1 ≤ Params.time.maxDepth w ∧ d1 ≤ 255) (h2 : d2 ≤ Params.hpx.maxDepth w ∧ d2 ≤ 255)
    (hf1 : Params.time.nCells d1 < 2 ^ w ∧ d1 < 2 ^ w) (hf2 : Params.hpx.nCells d2 < 2 ^ w ∧ d2 < 2 ^ w)
    (hv : ∀ e ∈ elems, Valid Params.time w d1 e.1 ∧ Valid Params.hpx w d2 e.2 ∧ e.1 ≠ [] ∧ e.2 ≠ []) :
    decodeText w (encodeCharsST w d1 d2 elems) = .ok (d1, d2, elems) := by
  rw [st_ascii_text_lex w d1 d2 hf1.2 hf2.2 elems fun e he =>
    have o1 := Moc.Codec.C07.itemsOf_ok Params.time (by decide) w d1 h1.1 h1.2 e.1 (hv e he).1
    have o2 := Moc.Codec.C07.itemsOf_ok Params.hpx (by decide) w d2 h2.1 h2.2 e.2 (hv e he).2.1
    ⟨fun it hit => (o1 it hit).1.fits (o1 it hit).2 hf1.1, fun it hit => (o2 it hit).1.fits (o2 it hit).2 hf2.1⟩]
  exact st_ascii_roundtrip w d1 d2 elems h1 h2 hv

/-- **ST JSON round trip** (token level: the JSON document is the same sequence of `(t, s)` parts
    written with single cells only, followed by the depth-only object). -/
theorem st_json_roundtrip (w d1 d2 : Nat) (elems : List STText.Elem)
    (h1 : d1 ≤ Params.time.maxDepth w ∧ d1 ≤ 255) (h2 : d2 ≤ Params.hpx.maxDepth w ∧ d2 ≤ 255)
    (hv : ∀ e ∈ elems, Valid Params.time w d1 e.1 ∧ Valid Params.hpx w d2 e.2 ∧ e.1 ≠ [] ∧ e.2 ≠ []) :
    decodeDoc w (encodeDocJson w d1 d2 elems) = .ok (d1, d2, elems) :=
  decodeDoc_parts w d1 d2 (fun l => encodeToks d1 (cellItemsOf Params.time w d1 l))
    (fun l => encodeToks d2 (cellItemsOf Params.hpx w d2 l)) elems h1 h2 fun e he =>
      ⟨Moc.Codec.C07.json_roundtrip_moc Params.time (by decide) w d1 h1.1 h1.2 e.1 (hv e he).1,
       Moc.Codec.C07.json_roundtrip_moc Params.hpx (by decide) w d2 h2.1 h2.2 e.2 (hv e he).2.1, (hv e he).2.2⟩

end Text

end Moc.STCodec.C11
