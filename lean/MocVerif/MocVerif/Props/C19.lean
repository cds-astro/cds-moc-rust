/-
  C19 — the command-line tool is a transparent front-end to the library semantics.

  Model: `Model/Cli.lean` (what `moc op` builds: streaming sources, `ConvertIterator` on the narrower
  operand, the lazy operator, the writer fed by its output).
  The tie runs the real `moc` binary.  Partial: `moc from` on positions (HEALPix hash), the geometry
  sub-commands and ST variants are exercised through the binary only (test level).
-/
import MocVerif.Lemmas.Cli
import MocVerif.Props.C01
import MocVerif.Props.C04
import MocVerif.Props.C07
import MocVerif.Props.C18
import MocVerif.Lemmas.ValidOps
import MocVerif.Lemmas.Calendar

namespace Moc.Cli.C19
open Moc Moc.Cli Moc.C01

def opSem : Op2 → Prop → Prop → Prop
  | .inter, a, b => a ∧ b
  | .union, a, b => a ∨ b
  | .symdiff, a, b => (a ↔ ¬ b)
  | .minus, a, b => a ∧ ¬ b

/-- The lazy operator chosen by the dispatcher, on any two consistent canonical streams. -/
theorem lazyOp_sem (op : Op2) (l r : Src) (hl : l.HintOkAll) (hr : r.HintOkAll)
    (cl : Canon l.items) (cr : Canon r.items) :
    (lazyOp op l r).depth = max l.depth r.depth ∧ Canon (lazyOp op l r).items ∧
    (lazyOp op l r).HintOkAll ∧
    ∀ x, mem x (lazyOp op l r).items ↔ opSem op (mem x l.items) (mem x r.items) := by
  cases op with
  | inter =>
    have h := lazy_and_sem l r hl.1 hr.1 cl cr
    exact ⟨h.1, h.2.1, Moc.C04.and_hints l r hl hr cl cr, h.2.2.2⟩
  | union =>
    have h := lazy_or_sem l r hr.1 cl cr
    exact ⟨h.1, h.2.1, Moc.C04.or_hints l r hl hr cl cr, h.2.2.2⟩
  | symdiff =>
    have h := lazy_xor_sem l r cl cr
    exact ⟨h.1, h.2.1, Moc.C04.xor_hints l r hl hr cl cr, h.2.2⟩
  | minus =>
    have h := lazy_minus_sem l r hl.1 hr.1 cl cr
    exact ⟨h.1, h.2.1, Moc.C04.minus_hints l r hl hr cl cr, h.2.2.2⟩

/-- **`moc op <inter|union|symdiff|minus>`** on two files of index widths `wl`, `wr`: for every pair of
    canonical inputs and every consistent hint behaviour of the two file streams, the stream handed to the writer
    is canonical, has consistent hints (so the writer's NAXIS2 decision is sound) and covers exactly the
    set-theoretic result, the narrower operand being read at its own resolution. -/
theorem cli_op2_sem (q : Qty) (op : Op2) (wl wr : Nat) (l r : Src)
    (hl : l.HintOkAll) (hr : r.HintOkAll) (cl : Canon l.items) (cr : Canon r.items) :
    (op2 q op wl l wr r).1 = max wl wr ∧
    Canon (op2 q op wl l wr r).2.items ∧ (op2 q op wl l wr r).2.HintOkAll ∧
    ∀ x, mem x (op2 q op wl l wr r).2.items ↔
      opSem op (mem (x / 2 ^ (max wl wr - wl)) l.items) (mem (x / 2 ^ (max wl wr - wr)) r.items) := by
  have pl := promote_spec q wl (max wl wr) l hl cl
  have pr := promote_spec q wr (max wl wr) r hr cr
  have h := lazyOp_sem op _ _ pl.1 pr.1 pl.2.1 pr.2.1
  refine ⟨rfl, h.2.1, h.2.2.1, ?_⟩
  intro x
  show mem x (lazyOp op _ _).items ↔ _
  rw [h.2.2.2 x, pl.2.2 x, pr.2.2 x]

theorem div_pow_div (y a b : Nat) : y / 2 ^ a / 2 ^ b = y / 2 ^ (a + b) := by
  rw [Nat.div_div_eq_div_mul, ← Nat.pow_add]

/-- **Width independence**: in the common 64-bit index space the output set is the set operation
    applied to the two input sets — whatever the widths the operands are stored with. -/
theorem cli_op2_width_independent (q : Qty) (op : Op2) (wl wr : Nat) (l r : Src)
    (hwl : wl ≤ 64) (hwr : wr ≤ 64)
    (hl : l.HintOkAll) (hr : r.HintOkAll) (cl : Canon l.items) (cr : Canon r.items) (y : Nat) :
    mem y (to64 (max wl wr) (op2 q op wl l wr r).2.items) ↔
      opSem op (mem y (to64 wl l.items)) (mem y (to64 wr r.items)) := by
  have h := (cli_op2_sem q op wl wr l r hl hr cl cr).2.2.2
  have e1 : ∀ w rs, mem y (to64 w rs) ↔ mem (y / 2 ^ (64 - w)) rs := fun w rs => mem_scale (64 - w) rs y
  rw [e1, e1, e1, h]
  have hm : max wl wr ≤ 64 := Nat.max_le.2 ⟨hwl, hwr⟩
  rw [div_pow_div, div_pow_div, Nat.sub_add_sub_cancel hm (Nat.le_max_left _ _),
    Nat.sub_add_sub_cancel hm (Nat.le_max_right _ _)]

/-- The deepest levels of the three quantities differ by exactly the width difference for the index
    widths the tool handles (so that shifting by `wt − wf` bits is the change of resolution). -/
theorem promotion_table :
    ∀ q ∈ [Params.hpx, Params.time, Params.freq], ∀ p ∈ [(16, 32), (16, 64), (32, 64), (16, 16), (32, 32), (64, 64)],
      q.dim * q.maxDepth p.2 = q.dim * q.maxDepth p.1 + (p.2 - p.1) := by decide

theorem opSem_ff (op : Op2) : ¬ opSem op False False := by
  cases op <;> simp [opSem]

/-- **The result of `moc op` is a valid MOC** of the wider index type at depth `max(d_l, d_r)`:
    canonical, inside the domain, aligned on the cells of that depth — for valid inputs of any two
    widths related as in `promotion_table`. -/
theorem cli_op2_valid (q : Qty) (op : Op2) (wl wr dl dr : Nat) (l r : Src)
    (hl : l.HintOkAll) (hr : r.HintOkAll)
    (vl : Valid q wl dl l.items) (vr : Valid q wr dr r.items)
    (hdl : dl ≤ q.maxDepth wl) (hdr : dr ≤ q.maxDepth wr)
    (kl : q.dim * q.maxDepth (max wl wr) = q.dim * q.maxDepth wl + (max wl wr - wl))
    (kr : q.dim * q.maxDepth (max wl wr) = q.dim * q.maxDepth wr + (max wl wr - wr)) :
    Valid q (max wl wr) (max dl dr) (op2 q op wl l wr r).2.items := by
  have sem := cli_op2_sem q op wl wr l r hl hr vl.1 vr.1
  have sl := valid_scale q wl (max wl wr) dl l.items hdl kl vl
  have sr := valid_scale q wr (max wl wr) dr r.items hdr kr vr
  refine valid_binary q (max wl wr) dl dr _ _ _ (opSem op) (opSem_ff op) sl sr sem.2.1 ?_
  intro x
  rw [sem.2.2.2 x, mem_scale, mem_scale]

/-- **`moc op complement`**. -/
theorem cli_complement_sem (q : Qty) (w : Nat) (s : Src) (h0 : 0 < q.nCellsMax w) (cs : Canon s.items)
    (hb : BoundedBy (q.nCellsMax w) s.items) :
    (complementOp q w s).depth = s.depth ∧ Canon (complementOp q w s).items ∧
    ∀ x, mem x (complementOp q w s).items ↔ x < q.nCellsMax w ∧ ¬ mem x s.items :=
  lazy_not_sem (q.nCellsMax w) h0 s cs hb

/-- **`moc op degrade d`** (`d` below the depth of the input): exactly the depth-`d` cells meeting the
    input. -/
theorem cli_degrade_sem (q : Qty) (w nd : Nat) (s : Src) (cs : Canon s.items) (hnd : nd < s.depth) :
    (degradeOp q w nd s).depth = nd ∧ Canon (degradeOp q w nd s).items ∧
    ∀ x, mem x (degradeOp q w nd s).items ↔
      ∃ y, mem y s.items ∧ x / 2 ^ q.shiftFromMax w nd = y / 2 ^ q.shiftFromMax w nd := by
  have h := lazy_degrade_sem (q.shiftFromMax w nd) nd s cs hnd
  have d := degraded_sem (q.shiftFromMax w nd) s.items cs
  unfold degradeOp
  rw [h.2]
  exact ⟨h.1, d.1, d.2⟩

/-- **`moc convert`** rests on the codec round trips of C07 (token-level ASCII, FITS rows). -/
theorem cli_convert_ascii (q : Qty) (w dmax : Nat) (items : List Moc.Codec.Item)
    (hmax : dmax ≤ q.maxDepth w ∧ dmax ≤ 255) (hok : ∀ it ∈ items, Moc.Codec.ItemOk q w it ∧ it.d ≤ dmax)
    (hdis : (items.map (Moc.Codec.rangeOfItem q w)).Pairwise Moc.Codec.C07.Disjoint) :
    Moc.Codec.decodeToks q w (Moc.Codec.encodeToks dmax items)
      = .ok (dmax, normalize (items.map (Moc.Codec.rangeOfItem q w))) :=
  Moc.Codec.C07.ascii_roundtrip q w dmax items hmax hok hdis
theorem cli_convert_fits_rows (rs : List Rng) : Moc.Codec.decodeWords (Moc.Codec.encodeWords rs) = rs :=
  Moc.Codec.C07.words_roundtrip rs

/-- **`moc from timestamp`** (microseconds): exactly the cells of the instants (C18). -/
theorem cli_from_timestamps (w sh cap : Nat) (ts : List Nat) (x : Nat) :
    mem x (fromMicrosec w sh cap ts) ↔ ∃ t ∈ ts, x / 2 ^ sh = (narrow (64 - w) t) >>> sh :=
  Moc.C18.tmoc_contains_exactly w sh cap ts x

/-! Non-vacuity: a u16 file combined with a u64 file. -/
example : (op2 Params.hpx .union 16 { depth := 1, items := [(0, 256)] } 64 { depth := 2, items := [(1 <<< 56, 2 <<< 56)] }).1 = 64 := rfl

/-! ### `moc from timestamp --time-type isorfc|isosimple`: civil date → microseconds since JD 0 -/
section Calendar
open Moc.Calendar

/-- **The date conversion of the tool counts days**: the Julian day number computed by
    `gregorian2jd` (Richards' algorithm, as written in `crates/cli/src/lib.rs`) increases by exactly
    one from any civil date of the Gregorian calendar to the next one — end of months, 28 / 29
    February, century years included — and is anchored on 2000-01-01 = JD 2451545.  Together the two
    facts determine it for every date: it IS the day count. -/
theorem iso_day_count (y m d : Nat) (hm : 1 ≤ m ∧ m ≤ 12) (hd : 1 ≤ d ∧ d ≤ monthLen y m) :
    gregorian2jd (nextDay y m d).1 (nextDay y m d).2.1 (nextDay y m d).2.2 = gregorian2jd y m d + 1 ∧
    gregorian2jd 2000 1 1 = 2451545 :=
  ⟨jd_next_day y m d hm hd, by decide⟩

/-- The same instant of the next day is exactly 86 400 000 000 microseconds later (whenever both are
    in the time domain), so ISO timestamps are mapped to microseconds without drift. -/
theorem iso_next_day_usec (y m d h mi s us t : Nat) (hm : 1 ≤ m ∧ m ≤ 12) (hd : 1 ≤ d ∧ d ≤ monthLen y m)
    (ht : isoUsec y m d h mi s us = some t) (hdom : t + 86400000000 < 2 ^ 62) :
    isoUsec (nextDay y m d).1 (nextDay y m d).2.1 (nextDay y m d).2.2 h mi s us = some (t + 86400000000) := by
  have hpos : 1 ≤ gregorian2jd y m d := by rw [jd_closed]; exact Nat.le_add_left 1 _
  unfold isoUsec at ht ⊢
  rw [jd_next_day y m d hm hd]
  generalize gregorian2jd y m d = J at *
  generalize hms2usec h mi s = T at *
  simp only [] at ht ⊢
  split at ht
  · obtain rfl := Option.some.inj ht
    -- half a day is less than the first whole day
    have hle : 43200000000 ≤ J * 86400000000 + us + T :=
      Nat.le_trans (Nat.le_trans (by decide) (Nat.le_mul_of_pos_left 86400000000 hpos))
        (Nat.le_trans (Nat.le_add_right _ us) (Nat.le_add_right _ T))
    rw [Nat.succ_mul, Nat.add_right_comm _ 86400000000 us, Nat.add_right_comm _ 86400000000 T,
      Nat.sub_add_comm hle, if_pos hdom]
  · cases ht

example : isoUsec 2020 1 1 0 0 0 0 = some 212444596800000000 := by decide

end Calendar

end Moc.Cli.C19
