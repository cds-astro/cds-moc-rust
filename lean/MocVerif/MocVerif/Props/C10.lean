/-
  C10 — space-time MOC algebra, folds and lookups follow point-set semantics.
-/
import MocVerif.Lemmas.Query
import MocVerif.Lemmas.ST
import MocVerif.Lemmas.Merge2D
import MocVerif.Lemmas.Regroup

namespace Moc.C10

/-- The three Boolean combinations the check evaluates at every grid point. -/
theorem union_point (a b : STMoc) (t s : Nat) : stPointOp 14 a b t s = true ↔ memST t s a ∨ memST t s b :=
  stPointOp_iff a b t s (by decide)
theorem inter_point (a b : STMoc) (t s : Nat) : stPointOp 8 a b t s = true ↔ memST t s a ∧ memST t s b :=
  stPointOp_iff a b t s (by decide)
theorem diff_point (a b : STMoc) (t s : Nat) : stPointOp 4 a b t s = true ↔ memST t s a ∧ ¬ memST t s b :=
  stPointOp_iff (f := fun p q => p ∧ ¬ q) a b t s (by decide)

/-- Intersection has a product form. -/
theorem inter_spec (t s : Nat) (a b : STMoc)
    (ha : ∀ e ∈ a, Canon e.1 ∧ Canon e.2) (hb : ∀ e ∈ b, Canon e.1 ∧ Canon e.2) :
    memST t s (stInterSpec a b) ↔ memST t s a ∧ memST t s b := by
  have hi : ∀ ea ∈ a, ∀ eb ∈ b, mem t (intersection ea.1 eb.1) ∧ mem s (intersection ea.2 eb.2) ↔
      (mem t ea.1 ∧ mem s ea.2) ∧ mem t eb.1 ∧ mem s eb.2 := fun ea hea eb heb => by
    rw [(intersection_spec _ _ (ha ea hea).1 (hb eb heb).1).2, (intersection_spec _ _ (ha ea hea).2 (hb eb heb).2).2,
      and_and_and_comm]
  constructor
  · rintro ⟨e, he, h⟩
    obtain ⟨ea, hea, he'⟩ := List.mem_flatMap.1 he
    obtain ⟨eb, heb, rfl⟩ := List.mem_map.1 he'
    have := (hi ea hea eb heb).1 h
    exact ⟨⟨ea, hea, this.1⟩, eb, heb, this.2⟩
  · rintro ⟨⟨ea, hea, h1⟩, eb, heb, h2⟩
    exact ⟨_, List.mem_flatMap.2 ⟨ea, hea, List.mem_map.2 ⟨eb, heb, rfl⟩⟩, (hi ea hea eb heb).2 ⟨h1, h2⟩⟩

/-- **Time fold**: union of the space coverages of `A` at the instants of `T` (the code's
    "time range intersects T" reading is equivalent to the instant reading for a valid `T`). -/
theorem tfold_sem (tm : List Rng) (htm : Canon tm) (a : STMoc) (ha : ∀ e ∈ a, Canon e.1) (s : Nat) :
    tfoldB tm a s = true ↔ ∃ t, mem t tm ∧ memST t s a := by
  unfold tfoldB memST
  rw [List.any_eq_true]
  constructor
  · rintro ⟨e, he, h⟩
    simp only [Bool.and_eq_true, decide_eq_true_eq, List.any_eq_true] at h
    obtain ⟨hs, r, hr, hir⟩ := h
    have hne := canon_nonempty (ha e he) r hr
    obtain ⟨y, y1, y2, y3⟩ := (intersectsRange_iff tm htm r hne).1 hir
    exact ⟨y, y3, e, he, (mem_iff_exists _ _).2 ⟨r, hr, y1, y2⟩, hs⟩
  · rintro ⟨t, ht, e, he, h1, h2⟩
    refine ⟨e, he, ?_⟩
    simp only [Bool.and_eq_true, decide_eq_true_eq, List.any_eq_true]
    obtain ⟨r, hr, r1, r2⟩ := (mem_iff_exists _ _).1 h1
    have hne := canon_nonempty (ha e he) r hr
    exact ⟨h2, r, hr, (intersectsRange_iff tm htm r hne).2 ⟨t, r1, r2, ht⟩⟩

/-- **Space fold**: the instants at which `A`'s non-empty space coverage lies inside `S`. -/
theorem sfold_sem (sm : List Rng) (hsm : Canon sm) (a : STMoc) (ha : ∀ e ∈ a, Canon e.2) (t : Nat) :
    sfoldB sm a t = true ↔ ∃ e ∈ a, mem t e.1 ∧ e.2 ≠ [] ∧ ∀ y, mem y e.2 → mem y sm := by
  unfold sfoldB
  simp only [List.any_eq_true, Bool.and_eq_true, decide_eq_true_eq, Bool.not_eq_true', List.isEmpty_eq_false_iff,
    and_assoc]
  exact exists_congr fun e => and_congr_right fun he => and_congr_right fun _ => and_congr_right fun _ =>
    containsAll_iff sm e.2 hsm (ha e he)

/-- **Time fold as computed** (`project_on_second_dim`: filter the entries whose time range meets `T`, reduce
    their space coverages with `union`). -/
theorem tfold_ranges (x : List Rng) (hx : Canon x) (flat : FlatST)
    (hf : ∀ e ∈ flat, e.1.1 < e.1.2 ∧ Canon e.2) :
    Canon (tfoldRanges x flat) ∧
    ∀ p, mem p (tfoldRanges x flat) ↔ ∃ e ∈ flat, (∃ t, e.1.1 ≤ t ∧ t < e.1.2 ∧ mem t x) ∧ mem p e.2 := by
  unfold tfoldRanges
  have sp := foldl_union_spec (·.2) (flat.filter fun e => intersectsRange x e.1) [] trivial
    (fun e he => (hf e (List.mem_filter.1 he).1).2)
  refine ⟨sp.1, fun p => ?_⟩
  rw [sp.2 p]
  simp only [mem, false_or, List.mem_filter, and_assoc]
  exact exists_congr fun e => and_congr_right fun he => and_congr_left' (intersectsRange_iff x hx e.1 (hf e he).1)

/-- The reduction is parallel (rayon): the order in which the entries are combined must not matter. -/
theorem tfold_ranges_order_independent (x : List Rng) (hx : Canon x) (flat flat' : FlatST) (hp : flat.Perm flat')
    (hf : ∀ e ∈ flat, e.1.1 < e.1.2 ∧ Canon e.2) : tfoldRanges x flat = tfoldRanges x flat' := by
  have hf' : ∀ e ∈ flat', e.1.1 < e.1.2 ∧ Canon e.2 := fun e he => hf e (hp.mem_iff.2 he)
  have s1 := tfold_ranges x hx flat hf
  have s2 := tfold_ranges x hx flat' hf'
  refine Canon.ext s1.1 s2.1 (fun p => ?_)
  rw [s1.2 p, s2.2 p]
  exact exists_mem_congr (fun e => hp.mem_iff) _

/-- **Space fold as computed** (`project_on_first_dim`: keep the time ranges of the entries whose space
    coverage lies inside `S`, `new_from_sorted`). -/
theorem sfold_ranges (y : List Rng) (hy : Canon y) (flat : FlatST) (hs : FlatSorted 0 flat)
    (hf : ∀ e ∈ flat, Canon e.2) :
    Canon (sfoldRanges y flat) ∧
    ∀ t, mem t (sfoldRanges y flat) ↔ ∃ e ∈ flat, (e.1.1 ≤ t ∧ t < e.1.2) ∧ ∀ p, mem p e.2 → mem p y := by
  unfold sfoldRanges newFromSorted
  have sp := mergeOverlapping_spec _ (sortedFrom_filter_map (fun e => containsAll y e.2) flat 0 hs)
  refine ⟨sp.1, fun t => ?_⟩
  rw [sp.2 t, mem_iff_exists, exists_mem_map]
  simp only [List.mem_filter, and_assoc]
  exact exists_congr fun e => and_congr_right fun he => by rw [containsAll_iff y e.2 hy (hf e he), and_comm, and_assoc]

example : FlatSorted 0 [((0, 5), [(0, 2)]), ((5, 10), [(4, 6)])] ∧ Canon [(0, 2)] ∧ Canon [(4, 6)] := by
  simp only [FlatSorted]; decide

/-- **The flat algebra AS COMPUTED** (`Ranges2D::merge`, the sweep behind `TimeSpaceMoc::{union, intersection,
    difference}`, transliterated in `Model/Merge2D.lean` and tied to the code by exact agreement of the entries):
    for every pair of well-formed operands — time ranges non-empty, ordered, disjoint (touching allowed), canonical
    space coverages — the result covers exactly the pairs given by the point-wise operation … -/
theorem flat_algebra_sem (op : Merge2D.Op) (a b : FlatST) (ha : Merge2D.InOk 0 a) (hb : Merge2D.InOk 0 b) (t s : Nat) :
    memST t s (Merge2D.toST (Merge2D.merge2 op a b)) ↔
      op.sem (memST t s (Merge2D.toST a)) (memST t s (Merge2D.toST b)) := by
  rw [Merge2D.memST_toST, Merge2D.memST_toST, Merge2D.memST_toST]
  exact (Merge2D.merge2_spec op a b ha hb).2 t s

/-- … and is a VALID flat coverage: no zero-length time range, ranges ordered and disjoint, coverages non-empty
    and canonical, no two touching ranges with the same coverage — what the judge `validFlatB` accepts. -/
theorem flat_algebra_valid (op : Merge2D.Op) (a b : FlatST) (ha : Merge2D.InOk 0 a) (hb : Merge2D.InOk 0 b) :
    validFlatB (Merge2D.toST (Merge2D.merge2 op a b)) = true :=
  (Merge2D.toST_spec (Merge2D.merge2_spec op a b ha hb)).1

/-- **The valid flat form is a normal form**, so the entries returned by the algebra are determined by the point
    sets of the operands. -/
theorem flat_normal_form (a b : FlatST) (ha : Merge2D.VF Canon 0 none a) (hb : Merge2D.VF Canon 0 none b)
    (h : ∀ t s, Merge2D.memFlat t s a ↔ Merge2D.memFlat t s b) : a = b :=
  Merge2D.VF.ext a b 0 none ha hb h

theorem flat_union_comm (a b : FlatST) (ha : Merge2D.InOk 0 a) (hb : Merge2D.InOk 0 b) :
    Merge2D.merge2 .union a b = Merge2D.merge2 .union b a :=
  have y := Merge2D.merge2_spec .union b a hb ha
  Merge2D.merge2_ext ha hb y.1 fun t s => (y.2 t s).trans Or.comm

theorem flat_inter_comm (a b : FlatST) (ha : Merge2D.InOk 0 a) (hb : Merge2D.InOk 0 b) :
    Merge2D.merge2 .inter a b = Merge2D.merge2 .inter b a :=
  have y := Merge2D.merge2_spec .inter b a hb ha
  Merge2D.merge2_ext ha hb y.1 fun t s => (y.2 t s).trans And.comm

theorem flat_union_assoc (a b c : FlatST) (ha : Merge2D.InOk 0 a) (hb : Merge2D.InOk 0 b) (hc : Merge2D.InOk 0 c) :
    Merge2D.merge2 .union (Merge2D.merge2 .union a b) c = Merge2D.merge2 .union a (Merge2D.merge2 .union b c) := by
  have ab := Merge2D.merge2_spec .union a b ha hb
  have bc := Merge2D.merge2_spec .union b c hb hc
  have y := Merge2D.merge2_spec .union a _ ha (Merge2D.InOk_of_VF _ 0 none bc.1)
  refine Merge2D.merge2_ext (Merge2D.InOk_of_VF _ 0 none ab.1) hc y.1 fun t s => ?_
  rw [y.2, ab.2, bc.2]
  exact or_assoc.symm

theorem flat_idempotent (a : FlatST) (ha : Merge2D.VF Canon 0 none a) :
    Merge2D.merge2 .union a a = a ∧ Merge2D.merge2 .inter a a = a ∧ Merge2D.merge2 .diff a [] = a := by
  have hi := Merge2D.InOk_of_VF a 0 none ha
  exact ⟨Merge2D.merge2_ext hi hi ha fun t s => or_self_iff.symm,
    Merge2D.merge2_ext hi hi ha fun t s => and_self_iff.symm,
    Merge2D.merge2_ext hi trivial ha fun t s => (and_iff_left (Merge2D.memFlat_nil t s).1).symm⟩

/-- **From the flat form back to `RangeMOC2` elements** (`time_space_iter`, what the store and the command-line tool
    do after the flat algebra): consecutive entries of equal coverage are grouped; the result is a VALID space-time
    MOC (canonical non-empty parts, elements in time order). -/
theorem time_space_iter_sem (g : FlatST) (hv : Merge2D.VF Canon 0 none g) :
    validSTB (Merge2D.regroup g) = true ∧ ∀ t s, memST t s (Merge2D.regroup g) ↔ Merge2D.memFlat t s g :=
  Merge2D.regroup_spec g hv

/-- The whole chain used for `moc op inter | union | minus` on ST files and by the store: flat algebra, then
    regrouping. -/
theorem st_algebra_chain (op : Merge2D.Op) (a b : FlatST) (ha : Merge2D.InOk 0 a) (hb : Merge2D.InOk 0 b) :
    validSTB (Merge2D.regroup (Merge2D.merge2 op a b)) = true ∧
    ∀ t s, memST t s (Merge2D.regroup (Merge2D.merge2 op a b)) ↔
      op.sem (Merge2D.memFlat t s a) (Merge2D.memFlat t s b) := by
  have m := Merge2D.merge2_spec op a b ha hb
  have r := Merge2D.regroup_spec _ m.1
  exact ⟨r.1, fun t s => by rw [r.2 t s, m.2 t s]⟩

example : Merge2D.InOk 0 [((0, 5), [(0, 2)]), ((5, 10), [(4, 6)])] := by
  simp only [Merge2D.InOk]; decide

/-- **Lookup** with half-open time ranges: true exactly for covered pairs (total by construction). -/
theorem lookup_sem (t s : Nat) (a : STMoc) : memSTB t s a = true ↔ memST t s a := memSTB_iff t s a

/-- A probe on the boundary shared by two consecutive time ranges belongs to the SECOND range only. -/
theorem shared_boundary_example :
    memSTB 5 1 [([(0, 5)], [(0, 2)]), ([(5, 10)], [(4, 6)])] = false ∧
    memSTB 5 4 [([(0, 5)], [(0, 2)]), ([(5, 10)], [(4, 6)])] = true := by decide

/-- The judge of the flat results: what `validFlatB` rejects — a zero-length time range … -/
theorem zero_length_rejected : validFlatB [([(0, 5)], [(0, 2)]), ([(5, 5)], [(0, 4)]), ([(5, 10)], [(4, 6)])] = false := by
  decide
/-- … or touching ranges with identical space left unfused. -/
theorem unfused_rejected : validFlatB [([(0, 5)], [(0, 2)]), ([(5, 10)], [(0, 2)])] = false := by decide

end Moc.C10
