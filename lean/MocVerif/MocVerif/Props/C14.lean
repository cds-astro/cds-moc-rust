/-
  C14 — a moc-set file always reflects the history of updates applied to it.
  Theorems about the reference state machine (`Model/MocSet.lean`) and about the FILE
  (`Model/MocSetFile.lean`: metadata / index words, data bytes): every command on the file commutes with the
  reader's abstraction map (`file_*_refines`, `file_history_refines`).  The real `mocset` binary is compared
  with both after EVERY command of generated histories (exit status + `list` rows, the file word for word,
  file bytes unchanged on refusal, `extract` = the MOC added) by the correspondence check.
-/
import MocVerif.Model.Params
import MocVerif.Lemmas.MocSetFile

namespace Moc.C14

/-- At most one live (valid or deprecated) entry per identifier. -/
def NoDupLive (s : MocSet) : Prop :=
  ∀ id, ((s.entries.filter fun e => e.id == id && e.status > 1).length ≤ 1)

theorem append_refused_unchanged (s : MocSet) (e : MsEntry) (h : (msAppend s e).2 = false) :
    (msAppend s e).1 = s := by
  rw [msAppend_fst, h]; rfl

/-- **Command-line domain**: an identifier beyond 48 bits and the status `void` are refused and the file is unchanged; inside
    the domain the commands are `append` / `chgstatus`.  (`mocset append set.bin 2^48+1` used to be stored as a second live
    `1`; `chgstatus void` used to panic with the lock file left behind.) -/
theorem cmd_domain (s : MocSet) (e : MsEntry) (st : Nat) (ids : List Nat) :
    (e.id > idMask → msAppendCmd s e = (s, false)) ∧ (e.id ≤ idMask → msAppendCmd s e = msAppend s e) ∧
    msChgStatusCmd s 0 ids = (s, false) ∧ (st ≠ 0 → msChgStatusCmd s st ids = msChgStatus s st ids) := by
  refine ⟨fun h => ?_, fun h => ?_, ?_, fun h => ?_⟩
  · simp [msAppendCmd, h]
  · have : ¬ e.id > idMask := by omega
    simp [msAppendCmd, this]
  · simp [msChgStatusCmd]
  · simp [msChgStatusCmd, h]

/-- So an identifier can be re-added once removed, but not while valid or deprecated. -/
theorem append_ok_iff (s : MocSet) (e : MsEntry) :
    (msAppend s e).2 = true ↔
      (¬ ∃ x ∈ s.entries, x.id = e.id ∧ x.status > 1) ∧ s.entries.length < s.cap := by
  rw [msAppend_snd, Bool.and_eq_true, Bool.not_eq_true', ← Bool.not_eq_true, List.any_eq_true, decide_eq_true_eq]
  simp only [Bool.and_eq_true, beq_iff_eq, decide_eq_true_eq]

theorem append_adds_last (s : MocSet) (e : MsEntry) (h : (msAppend s e).2 = true) :
    (msAppend s e).1.entries = s.entries ++ [e] := by
  rw [msAppend_fst, if_pos h]

theorem append_noDupLive (s : MocSet) (e : MsEntry) (hs : NoDupLive s) (he : e.status > 1) :
    NoDupLive (msAppend s e).1 := by
  by_cases hok : (msAppend s e).2 = true
  · have hno := ((append_ok_iff s e).1 hok).1
    simp only [NoDupLive, ← List.countP_eq_length_filter] at hs ⊢
    intro id
    rw [append_adds_last s e hok, List.countP_append, List.countP_singleton]
    split
    · next hid =>
      -- the new entry counts for `id`: no old live entry does, or the append would have been refused
      have : s.entries.countP (fun x => x.id == id && decide (x.status > 1)) = 0 := by
        rw [List.countP_eq_zero]
        intro x hx hp
        simp only [Bool.and_eq_true, beq_iff_eq, decide_eq_true_eq] at hp hid
        exact hno ⟨x, hx, hp.1.trans hid.1.symm, hp.2⟩
      rw [this]; exact Nat.le_refl 1
    · exact hs id
  · rw [append_refused_unchanged s e (by simpa using hok)]; exact hs

theorem purge_drops_removed_only (s : MocSet) (n : Option Nat) :
    (msPurge s n).1.entries = s.entries.filter (·.status > 1) ∧
    ∀ e, e ∈ (msPurge s n).1.entries ↔ e ∈ s.entries ∧ e.status > 1 := by
  refine ⟨rfl, fun e => ?_⟩
  show e ∈ s.entries.filter (·.status > 1) ↔ _
  simp [List.mem_filter]

/-- The byte size shown by `list`: `n_ranges · 2 · 4` bytes when `depth ≤ 13`, `· 8` otherwise. -/
theorem list_exact (s : MocSet) :
    msList s = s.entries.map fun e => (e.id, e.status, e.depth, e.ranges.length, e.ranges.length * 2 * elemBytes e.depth) :=
  rfl

theorem extract_returns_live (s : MocSet) (id : Nat) (e : MsEntry) (h : msExtract s id = some e) :
    e ∈ s.entries ∧ e.id = id ∧ e.status > 1 := by
  unfold msExtract at h
  have h1 := List.mem_of_find?_eq_some h
  have h2 := List.find?_some h
  simp at h2
  exact ⟨h1, h2.1, h2.2⟩

/-! Non-vacuity -/
example : NoDupLive { n128 := 1, entries := [⟨1, 3, 5, []⟩, ⟨1, 1, 5, []⟩, ⟨2, 2, 14, [(0, 16)]⟩] } := by
  intro id
  by_cases h1 : id = 1
  · subst h1; decide
  · by_cases h2 : id = 2
    · subst h2; decide
    · simp [Ne.symm h1, Ne.symm h2]

/-! ### `extract` as an abstraction map: every command commutes with it -/

theorem extract_after_append_same (s : MocSet) (e : MsEntry) (h : (msAppend s e).2 = true) (he : e.status > 1) :
    msExtract (msAppend s e).1 e.id = some e := by
  have hno := ((append_ok_iff s e).1 h).1
  unfold msExtract
  rw [append_adds_last s e h, List.find?_append]
  have : s.entries.find? (fun x => x.id == e.id && x.status > 1) = none := by
    rw [List.find?_eq_none]
    intro x hx hp
    simp at hp
    exact hno ⟨x, hx, hp.1, hp.2⟩
  rw [this]
  simp [he]

theorem extract_after_append_other (s : MocSet) (e : MsEntry) (id : Nat) (hid : e.id ≠ id) :
    msExtract (msAppend s e).1 id = msExtract s id := by
  by_cases h : (msAppend s e).2 = true
  · unfold msExtract
    rw [append_adds_last s e h, List.find?_append]
    cases hf : s.entries.find? (fun x => x.id == id && x.status > 1) with
    | some x => rfl
    | none => simp [hid]
  · rw [append_refused_unchanged s e (by simpa using h)]

theorem chgEntry_id (st : Nat) (ids : List Nat) (x : MsEntry) : (chgEntry st ids x).id = x.id := by
  fun_cases chgEntry st ids x <;> rfl
theorem chgEntry_depth (st : Nat) (ids : List Nat) (x : MsEntry) : (chgEntry st ids x).depth = x.depth := by
  fun_cases chgEntry st ids x <;> rfl
theorem chgEntry_ranges (st : Nat) (ids : List Nat) (x : MsEntry) : (chgEntry st ids x).ranges = x.ranges := by
  fun_cases chgEntry st ids x <;> rfl
theorem chgEntry_hit (st : Nat) (ids : List Nat) (x : MsEntry) (h1 : x.status > 1) (h2 : x.id ∈ ids) :
    chgEntry st ids x = { x with status := st } := by
  unfold chgEntry; simp [h1, h2]
theorem chgEntry_dead (st : Nat) (ids : List Nat) (x : MsEntry) (h1 : ¬ x.status > 1) : chgEntry st ids x = x := by
  unfold chgEntry; simp [h1]
theorem chgEntry_miss (st : Nat) (ids : List Nat) (x : MsEntry) (h2 : x.id ∉ ids) : chgEntry st ids x = x := by
  unfold chgEntry; simp [h2]

/-- A listed live identifier gets the new status, and disappears from `extract` when the new status is `removed`
    (`st = 1`). -/
theorem extract_after_chg (s : MocSet) (st : Nat) (ids : List Nat) (id : Nat) :
    msExtract (msChgStatus s st ids).1 id =
      if id ∈ ids then
        (if st > 1 then (msExtract s id).map (fun x => { x with status := st }) else none)
      else msExtract s id := by
  unfold msExtract msChgStatus
  induction s.entries with
  | nil => simp
  | cons x t ih =>
    rw [List.map_cons, List.find?_cons, List.find?_cons]
    by_cases hid : x.id = id
    · by_cases hl : x.status > 1
      · by_cases hc : x.id ∈ ids
        · rw [chgEntry_hit st ids x hl hc]
          have hc' : id ∈ ids := by rw [← hid]; exact hc
          by_cases hst : st > 1
          · simp [hid, hl, hst, hc']
          · simp only [hid, hl, hst, hc', beq_self_eq_true, decide_true, decide_false, Bool.and_false, Bool.and_true, if_true, if_false]
            rw [ih]; simp [hc', hst]
        · have hc' : id ∉ ids := by rw [← hid]; exact hc
          rw [chgEntry_miss st ids x hc]
          simp [hid, hl, hc']
      · rw [chgEntry_dead st ids x hl]
        simp only [hl, decide_false, Bool.and_false]
        exact ih
    · have hne : (x.id == id) = false := by simpa using hid
      simp only [chgEntry_id, hne, Bool.false_and]
      exact ih

theorem chg_unknown_unchanged (s : MocSet) (st : Nat) (ids : List Nat)
    (h : ∀ x ∈ s.entries, x.status > 1 → x.id ∉ ids) : (msChgStatus s st ids).1 = s := by
  unfold msChgStatus
  have : s.entries.map (chgEntry st ids) = s.entries := by
    refine map_eq_self fun x hx => ?_
    by_cases hl : x.status > 1
    · exact chgEntry_miss st ids x (h x hx hl)
    · exact chgEntry_dead st ids x hl
  rw [this]

theorem extract_after_purge (s : MocSet) (n : Option Nat) (id : Nat) :
    msExtract (msPurge s n).1 id = msExtract s id := by
  unfold msExtract msPurge
  simp only [List.find?_filter]
  congr 1
  funext x
  generalize decide (x.status > 1) = b, (x.id == id) = a
  cases a <;> cases b <;> rfl

def SameMoc (a b : MsEntry) : Prop := a.id = b.id ∧ a.depth = b.depth ∧ a.ranges = b.ranges

theorem chg_noDupLive (s : MocSet) (st : Nat) (ids : List Nat) (hs : NoDupLive s) :
    NoDupLive (msChgStatus s st ids).1 := by
  simp only [NoDupLive, ← List.countP_eq_length_filter] at hs ⊢
  intro id
  refine Nat.le_trans ?_ (hs id)
  show List.countP _ (s.entries.map (chgEntry st ids)) ≤ _
  rw [List.countP_map]
  refine List.countP_mono_left fun x _ hx => ?_
  simp only [Function.comp, chgEntry_id, Bool.and_eq_true, decide_eq_true_eq] at hx ⊢
  exact ⟨hx.1, chgEntry_live st ids x hx.2⟩

theorem purge_noDupLive (s : MocSet) (n : Option Nat) (hs : NoDupLive s) : NoDupLive (msPurge s n).1 :=
  fun id => Nat.le_trans (List.filter_sublist.filter _).length_le (hs id)

/-- **Every history**: at most one live entry per identifier, whatever commands were applied
    (appended MOCs are added as valid / deprecated). -/
theorem history_noDupLive (cs : List MsCmd) : ∀ (s : MocSet), NoDupLive s →
    (∀ c ∈ cs, ∀ e, c = .append e → e.status > 1) → NoDupLive (msRun s cs) := by
  induction cs with
  | nil => intro s hs _; exact hs
  | cons c t ih =>
    intro s hs hc
    apply ih
    · cases c with
      | append e => exact append_noDupLive s e hs (hc _ List.mem_cons_self e rfl)
      | chg st ids => exact chg_noDupLive s st ids hs
      | purge n => exact purge_noDupLive s n hs
    · intro c' hc' e he; exact hc c' (List.mem_cons_of_mem _ hc') e he

/-- **Every history**: whatever `extract` returns under an identifier is — up to its status — an entry of
    the initial file or a MOC that an `append` command of the history added under that identifier:
    no command ever alters, swaps or invents a MOC. -/
theorem history_extract_origin (cs : List MsCmd) : ∀ (s : MocSet) (id : Nat) (x : MsEntry),
    msExtract (msRun s cs) id = some x →
    (∃ y ∈ s.entries, SameMoc x y) ∨ (∃ e, MsCmd.append e ∈ cs ∧ SameMoc x e) := by
  induction cs with
  | nil =>
    intro s id x h
    exact Or.inl ⟨x, (extract_returns_live s id x h).1, rfl, rfl, rfl⟩
  | cons c t ih =>
    intro s id x h
    have trans : ∀ {a b c : MsEntry}, SameMoc a b → SameMoc b c → SameMoc a c :=
      fun h1 h2 => ⟨h1.1.trans h2.1, h1.2.1.trans h2.2.1, h1.2.2.trans h2.2.2⟩
    have key : ∀ y ∈ (msStep s c).entries, (∃ z ∈ s.entries, SameMoc y z) ∨ (∃ e, c = .append e ∧ SameMoc y e) := by
      intro y hy
      cases c with
      | append e =>
        simp only [msStep, msAppend_fst] at hy
        split at hy
        · rcases List.mem_append.1 hy with hy | hy
          · exact .inl ⟨y, hy, rfl, rfl, rfl⟩
          · exact .inr ⟨e, rfl, List.mem_singleton.1 hy ▸ ⟨rfl, rfl, rfl⟩⟩
        · exact .inl ⟨y, hy, rfl, rfl, rfl⟩
      | chg st ids =>
        obtain ⟨z, hz, rfl⟩ := List.mem_map.1 hy
        exact .inl ⟨z, hz, chgEntry_id st ids z, chgEntry_depth st ids z, chgEntry_ranges st ids z⟩
      | purge n => exact .inl ⟨y, (List.mem_filter.1 hy).1, rfl, rfl, rfl⟩
    rcases ih (msStep s c) id x h with ⟨y, hy, hxy⟩ | ⟨e, he, hxe⟩
    · rcases key y hy with ⟨z, hz, hyz⟩ | ⟨e, rfl, hye⟩
      · exact .inl ⟨z, hz, trans hxy hyz⟩
      · exact .inr ⟨e, List.mem_cons_self, trans hxy hye⟩
    · exact .inr ⟨e, List.mem_cons_of_mem _ he, hxe⟩

/-- `make`, when it accepts: the MOCs fit, their identifiers are distinct, and the file holds them in the given
    order. -/
theorem make_spec (n : Nat) (l : List MsEntry) (s : MocSet) (h : msMake n l = some s) :
    s.entries = l ∧ s.n128 = n ∧ l.length ≤ s.cap ∧ (l.map (·.id)).eraseDups.length = l.length := by
  obtain ⟨rfl, h1, h2⟩ := msMake_some h
  exact ⟨rfl, rfl, h1, h2⟩

/-! ### The FILE: 64-bit header words and data bytes (`Model/MocSetFile.lean`)

  Every command, transliterated on the metadata / index arrays and the data bytes, commutes with the
  abstraction map `abs` (what the reader's `zip` of the two iterators decodes): the theorems above,
  stated on the abstract list of entries, therefore hold of what is READ BACK from the bytes. -/
section File
open Moc.MsFile

/-- The layout constants of the file model are the ones EXTRACTED from `crates/set/src/lib.rs` by this
    run (`Model/Params.lean` is regenerated from the source): the identifier mask, the shifts of the
    status and depth fields, the four status codes, the capacity / index / header geometry. -/
theorem layout_constants :
    Params.msIdMask = idMask ∧ Params.msStatusShift = 56 ∧ Params.msDepthShift = 48 ∧
    Params.msVoid = 0 ∧ Params.msRemoved = 1 ∧ Params.msDeprecated = 2 ∧ Params.msValid = 3 ∧
    (∀ n, capOf n = (n <<< Params.msCapShift) - 1) ∧ (∀ n, hdrBytes n = n <<< Params.msHdrShift) ∧
    Params.msIndexShift + 1 = Params.msHdrShift := by
  refine ⟨by decide, by decide, by decide, by decide, by decide, by decide, by decide, fun _ => rfl, fun _ => rfl, by decide⟩

/-- **Composing then decomposing a metadata word** (`FlagDepthId`). -/
theorem meta_word_roundtrip (st d id : Nat) (hs : st < 4) (hd : d < 256) :
    wStatus (pack st d id) = st ∧ wDepth (pack st d id) = d ∧ wId (pack st d id) = id % 2 ^ 48 :=
  unpack st d id hs hd

/-- **The bytes written for a MOC decode to the same ranges** (32-bit storage up to depth 13, 64-bit
    storage beyond). -/
theorem moc_bytes_roundtrip (e : MsEntry) (h : EntryOk e) : bytesRanges e.depth (entryBytes e) = e.ranges :=
  bytesRanges_entryBytes e h

/-- A file a history of COMPLETED commands can reach: the canonical file of a list of acceptable entries with
    at most one live entry per identifier, possibly followed by leftover bytes (what an append killed after its
    data store leaves).  The file an append killed after its index store leaves — an orphan index word behind
    the listed ones — is NOT of this form. -/
def FileWF (f : File) : Prop :=
  ∃ l tail, (∀ x ∈ l, EntryOk x) ∧ NoDupLive { n128 := f.n128, entries := l } ∧
    f = build f.n128 (l.map itemOf) tail

theorem noDupL_of_noDupLive {s : MocSet} (h : NoDupLive s) : NoDupL s.entries := by
  -- two live entries under one identifier would both pass its filter
  refine List.pairwise_iff_forall_sublist.2 fun {x y} hs hx hy hid => ?_
  have := (hs.filter fun e => e.id == x.id && decide (e.status > 1)).length_le
  rw [List.filter_cons_of_pos (by simp [hx]), List.filter_cons_of_pos (by simp [hid, hy])] at this
  exact Nat.not_succ_le_self 1 (Nat.le_trans this (h x.id))

theorem abs_of_wf {f : File} : FileWF f ↔ ∃ s, Rep f s ∧ NoDupLive s :=
  ⟨fun ⟨l, tail, hok, hnd, hb⟩ => ⟨⟨f.n128, l⟩, ⟨hok, tail, hb⟩, hnd⟩,
   fun ⟨s, ⟨hok, tail, hb⟩, hnd⟩ => by subst hb; exact ⟨s.entries, tail, hok, hnd, rfl⟩⟩

theorem file_make_refines (n : Nat) (l : List MsEntry) (s : MocSet) (hok : ∀ x ∈ l, EntryOk x)
    (h : msMake n l = some s) : ∃ f, fileMake n l = some f ∧ abs f = s := by
  obtain ⟨f, hf, hr⟩ := Rep.make hok h
  exact ⟨f, hf, hr.abs⟩

theorem file_append_refines (f : File) (e : MsEntry) (hf : FileWF f) (he : EntryOk e) (hl : e.status > 1) :
    abs (fileAppend f e).1 = (msAppend (abs f) e).1 ∧ (fileAppend f e).2 = (msAppend (abs f) e).2 ∧
    FileWF (fileAppend f e).1 := by
  obtain ⟨s, hr, hnd⟩ := abs_of_wf.1 hf
  obtain ⟨hr', hv⟩ := hr.append he
  rw [hr.abs]
  exact ⟨hr'.abs, hv, abs_of_wf.2 ⟨_, hr', append_noDupLive s e hnd hl⟩⟩

theorem entryOk_chgEntry (st : Nat) (ids : List Nat) (x : MsEntry) (hst : 1 ≤ st ∧ st < 4) (h : EntryOk x) :
    EntryOk (chgEntry st ids x) :=
  h.chgEntry hst ids

/-- **`chgstatus`** on the file is the walk that takes an identifier off the map once met: it agrees with the abstract
    command because the live identifiers of a reachable file are unique. -/
theorem file_chg_refines (f : File) (st : Nat) (ids : List Nat) (hf : FileWF f) (hst : 1 ≤ st ∧ st < 4) :
    abs (fileChg f st ids).1 = (msChgStatus (abs f) st ids).1 ∧ FileWF (fileChg f st ids).1 := by
  obtain ⟨s, hr, hnd⟩ := abs_of_wf.1 hf
  have hr' := hr.chg (noDupL_of_noDupLive hnd) hst ids
  rw [hr.abs]
  exact ⟨hr'.abs, abs_of_wf.2 ⟨_, hr', chg_noDupLive s st ids hnd⟩⟩

theorem file_purge_refines (f : File) (k : Option Nat) (hf : FileWF f) :
    abs (filePurge f k).1 = (msPurge (abs f) k).1 ∧ FileWF (filePurge f k).1 := by
  obtain ⟨s, hr, hnd⟩ := abs_of_wf.1 hf
  rw [hr.abs]
  exact ⟨(hr.purge k).abs, abs_of_wf.2 ⟨_, hr.purge k, purge_noDupLive s k hnd⟩⟩

theorem file_list_refines (f : File) (hf : FileWF f) : fileList f = msList (abs f) := by
  obtain ⟨s, hr, _⟩ := abs_of_wf.1 hf
  rw [hr.abs, hr.list]

/-- **`extract`** computed from the header words and data bytes (first row with that identifier whose status
    is valid or deprecated, its bytes decoded): for EVERY file, reachable or not. -/
theorem file_extract_refines (f : File) (id : Nat) : fileExtract f id = msExtract (abs f) id := by
  unfold fileExtract msExtract abs
  simp only [List.find?_map, live_word]
  rfl

/-- Commands a history may contain: appended MOCs are acceptable and added live; a status is one of
    removed / deprecated / valid. -/
def CmdOk : MsCmd → Prop
  | .append e => EntryOk e ∧ e.status > 1
  | .chg st _ => 1 ≤ st ∧ st < 4
  | .purge _ => True

/-- **Every history, at the level of the file**: whatever sequence of `append`, `chgstatus` and
    `purge` commands is run on a reachable file, what is read back from the header words and data
    bytes is exactly the state of the abstract machine after the same commands. -/
theorem file_history_refines (cs : List MsCmd) : ∀ (f : File), FileWF f → (∀ c ∈ cs, CmdOk c) →
    abs (fileRun f cs) = msRun (abs f) cs ∧ FileWF (fileRun f cs) := by
  induction cs with
  | nil => intro f hf _; exact ⟨rfl, hf⟩
  | cons c t ih =>
    intro f hf hc
    have hstep : abs (fileStep f c) = msStep (abs f) c ∧ FileWF (fileStep f c) := by
      have hcc := hc c List.mem_cons_self
      cases c with
      | append e => obtain ⟨h1, _, h3⟩ := file_append_refines f e hf hcc.1 hcc.2; exact ⟨h1, h3⟩
      | chg st ids => exact file_chg_refines f st ids hf hcc
      | purge k => exact file_purge_refines f k hf
    have := ih (fileStep f c) hstep.2 (fun c' hc' => hc c' (List.mem_cons_of_mem _ hc'))
    simp only [fileRun, msRun, List.foldl_cons] at this ⊢
    rw [← hstep.1]
    exact this

/-- Non-vacuity: a two-entry file (one 32-bit MOC, one 64-bit MOC) is reachable. -/
example : FileWF (build 1 ([{ id := 7, status := 3, depth := 3, ranges := [(0, 2 ^ 52)] },
    { id := 9, status := 2, depth := 20, ranges := [(5 * 2 ^ 18, 6 * 2 ^ 18)] }].map itemOf) []) := by
  refine ⟨_, [], ?_, fun id => ?_, rfl⟩
  · intro x hx
    simp only [List.mem_cons, List.not_mem_nil, or_false] at hx
    rcases hx with rfl | rfl <;> refine ⟨by decide, by decide, by decide, by decide, ?_⟩ <;>
      (intro r hr; simp only [List.mem_singleton] at hr; subst hr; decide)
  · -- the two identifiers differ: at most one of the two entries passes the filter
    by_cases h : id = 7
    · subst h; decide
    · show (List.filter _ (_ :: [_])).length ≤ 1
      rw [List.filter_cons_of_neg (by simpa using Ne.symm h)]
      exact List.length_filter_le _ [_]

end File

end Moc.C14
