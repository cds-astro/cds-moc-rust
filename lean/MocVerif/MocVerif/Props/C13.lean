/-
  C13 — the in-memory MOC store is a faithful, linearizable registry of MOCs.

  Specification: a registry is a partial map `index ↦ (copy count, value)`; `SpecStep` is the whole sequential
  reference semantics (a fresh index is ANY index that is not live).  The slab model refines it from every reachable
  state (`run_refines_registry`), and every interleaving of the lock sections of several threads (an operation = a
  read section + a later write section) returns, call by call, what the SEQUENTIAL store returns for the order of
  the completion sections (`concurrent_is_sequential`), provided operands of in-flight operations are not dropped
  (the "shared read-only operands" of the statement).
  Runtime part NOT carried by the model (lock fairness/poisoning/re-entrancy): exercised by the threaded
  correspondence run under a watchdog.
-/
import MocVerif.Lemmas.Store

namespace Moc.Store.C13
open Moc.Store

abbrev Reg := Nat → Option (Nat × Val)

def Reg.set (m : Reg) (k : Nat) (x : Option (Nat × Val)) : Reg := fun j => if j = k then x else m j
def Reg.value (m : Reg) (i : Nat) : Option Val := (m i).map (·.2)

inductive SpecStep : Reg → Call → Out → Reg → Prop
  | add {m : Reg} {v : Val} {k : Nat} : m k = none → SpecStep m (.add v) (.idx k) (m.set k (some (1, v)))
  | copyOk {m : Reg} {i c : Nat} {v : Val} : m i = some (c, v) → c < 255 →
      SpecStep m (.copy i) .unit (m.set i (some (c + 1, v)))
  | copyFull {m : Reg} {i : Nat} {v : Val} : m i = some (255, v) → SpecStep m (.copy i) (.err .full) m
  | copyDead {m : Reg} {i : Nat} : m i = none → SpecStep m (.copy i) (.err .notFound) m
  | dropLast {m : Reg} {i : Nat} {v : Val} : m i = some (1, v) → SpecStep m (.drop i) .unit (m.set i none)
  | dropMore {m : Reg} {i c : Nat} {v : Val} : m i = some (c + 2, v) →
      SpecStep m (.drop i) .unit (m.set i (some (c + 1, v)))
  | dropDead {m : Reg} {i : Nat} : m i = none → SpecStep m (.drop i) (.err .notFound) m
  | getOk {m : Reg} {i c : Nat} {v : Val} : m i = some (c, v) → SpecStep m (.get i) (.val v) m
  | getDead {m : Reg} {i : Nat} : m i = none → SpecStep m (.get i) (.err .notFound) m
  | opOk {m : Reg} {c : Call} {v : Val} {k : Nat} : isOp c = true → readPhaseF m.value c = .ok v →
      m k = none → SpecStep m c (.idx k) (m.set k (some (1, v)))
  | opErr {m : Reg} {c : Call} {e : Err} : isOp c = true → readPhaseF m.value c = .error e →
      SpecStep m c (.err e) m

inductive SpecRun : Reg → List Call → List Out → Reg → Prop
  | nil {m : Reg} : SpecRun m [] [] m
  | cons {m m' m'' : Reg} {c : Call} {o : Out} {cs : List Call} {os : List Out} :
      SpecStep m c o m' → SpecRun m' cs os m'' → SpecRun m (c :: cs) (o :: os) m''

theorem inv_init : Inv St.init :=
  ⟨⟨[], Chain.done, List.nodup_nil⟩, fun _ _ _ h => nomatch h⟩

theorem value_eq (s : St) : valueAt s = Reg.value (lookup s) := rfl

/-- **Refinement, one call**: the store returns what the reference registry returns and moves to the corresponding
    registry. -/
theorem step_refines_registry (s : St) (c : Call) (hinv : Inv s) :
    SpecStep (lookup s) c (step s c).2 (lookup (step s c).1) ∧ Inv (step s c).1 := by
  by_cases hop : isOp c = true
  · rw [step_op hop]
    cases hr : readPhase s c with
    | ok v =>
      obtain ⟨h1, h2, h3⟩ := insert_spec s v hinv
      exact ⟨h2 ▸ SpecStep.opOk hop hr h1, h3⟩
    | error e => exact ⟨SpecStep.opErr hop hr, hinv⟩
  cases c with
  | add v =>
    obtain ⟨h1, h2, h3⟩ := insert_spec s v hinv
    exact ⟨h2 ▸ SpecStep.add h1, h3⟩
  | copy i =>
    simp only [step, copyMoc]
    cases hl : lookup s i with
    | none => exact ⟨SpecStep.copyDead hl, hinv⟩
    | some cv =>
      obtain ⟨c, v⟩ := cv
      by_cases hc : c = 255
      · subst hc; simp only [↓reduceIte]; exact ⟨SpecStep.copyFull hl, hinv⟩
      · have hc' : c < 255 := Nat.lt_of_le_of_ne (hinv.2 i c v hl).2 hc
        simp only [hc, ↓reduceIte]
        rw [lookup_set (lookup_some_lt hl)]
        exact ⟨SpecStep.copyOk hl hc', inv_set_count hinv hl ⟨Nat.le_add_left 1 c, hc'⟩⟩
  | drop i =>
    simp only [step, dropMoc]
    cases hl : lookup s i with
    | none => exact ⟨SpecStep.dropDead hl, hinv⟩
    | some cv =>
      obtain ⟨c, v⟩ := cv
      match c, hl, hinv.2 i c v hl with
      | 0, _, hb => exact absurd hb.1 (by decide)
      | 1, hl, _ =>
        simp only [Nat.sub_self, ↓reduceIte, remove]
        rw [lookup_set (lookup_some_lt hl)]
        exact ⟨SpecStep.dropLast hl, inv_remove hinv hl⟩
      | d + 2, hl, hb =>
        simp only [Nat.add_one_sub_one, Nat.succ_ne_zero, ↓reduceIte]
        rw [lookup_set (lookup_some_lt hl)]
        exact ⟨SpecStep.dropMore hl, inv_set_count hinv hl ⟨Nat.le_add_left 1 d, Nat.le_of_succ_le hb.2⟩⟩
  | get i =>
    simp only [step, valueAt]
    cases hl : lookup s i with
    | none => exact ⟨SpecStep.getDead hl, hinv⟩
    | some cv => exact ⟨SpecStep.getOk (c := cv.1) hl, hinv⟩
  | op1 f i | op2 f i j | opn f is => exact absurd rfl hop

theorem inv_reachable (h : List Call) : Inv (run St.init h).1 := by
  suffices ∀ s, Inv s → Inv (run s h).1 from this _ inv_init
  induction h with
  | nil => intro s hs; exact hs
  | cons c cs ih => intro s hs; exact ih _ (step_refines_registry s c hs).2

theorem run_refines_registry (s : St) (h : List Call) (hinv : Inv s) :
    SpecRun (lookup s) h (run s h).2 (lookup (run s h).1) := by
  induction h generalizing s with
  | nil => exact SpecRun.nil
  | cons c cs ih =>
    obtain ⟨h1, h2⟩ := step_refines_registry s c hinv
    exact SpecRun.cons h1 (ih _ h2)

theorem spec_fresh {m m' : Reg} {c : Call} {o : Out} (h : SpecStep m c o m') (k : Nat)
    (ho : o = .idx k) : m k = none := by
  induction h with
  | add hk | opOk _ _ hk => cases ho; exact hk
  | _ => cases ho

/-- An index handed out (by `add` or by an operation) was not live: it is never handed out for
    another MOC while live. -/
theorem fresh_index_not_live (s : St) (c : Call) (k : Nat) (hinv : Inv s)
    (h : (step s c).2 = .idx k) : lookup s k = none :=
  spec_fresh (step_refines_registry s c hinv).1 k h

theorem spec_value_stable {m m' : Reg} {c : Call} {o : Out} (h : SpecStep m c o m') (i : Nat) (v : Val)
    (hl : m.value i = some v) (hc : c ≠ .drop i) : m'.value i = some v := by
  obtain ⟨cv, hlive, rfl⟩ := Option.map_eq_some_iff.1 hl
  -- a step writes at most one index: another one, or `i` with the same MOC
  have set : ∀ (k : Nat) (x : Option (Nat × Val)), (k = i → x.map (·.2) = some cv.2) →
      Reg.value (Reg.set m k x) i = some cv.2 := by
    intro k x hk
    unfold Reg.value Reg.set
    by_cases e : i = k
    · rw [if_pos e]; exact hk e.symm
    · rw [if_neg e]; exact hl
  induction h with
  | add hk | opOk _ _ hk => exact set _ _ fun e => by rw [e, hlive] at hk; cases hk
  | copyOk hj _ => exact set _ _ fun e => by rw [e, hlive] at hj; cases hj; rfl
  | dropLast hj | dropMore hj => exact set _ _ fun e => absurd (by rw [e]) hc
  | _ => exact hl

theorem value_stable_step (s : St) (c : Call) (i : Nat) (v : Val) (hinv : Inv s)
    (hl : valueAt s i = some v) (hc : c ≠ .drop i) : valueAt (step s c).1 i = some v := by
  rw [value_eq] at hl ⊢
  exact spec_value_stable (step_refines_registry s c hinv).1 i v hl hc

/-- **An index denotes the same MOC** along every history that does not drop it. -/
theorem value_stable (s : St) (h : List Call) (i : Nat) (v : Val) (hinv : Inv s)
    (hl : valueAt s i = some v) (hnd : ∀ c ∈ h, c ≠ Call.drop i) :
    valueAt (run s h).1 i = some v := by
  induction h generalizing s with
  | nil => exact hl
  | cons c cs ih =>
    exact ih _ (step_refines_registry s c hinv).2
      (value_stable_step s c i v hinv hl (hnd c List.mem_cons_self))
      (fun c' hc' => hnd c' (List.mem_cons_of_mem _ hc'))

/-- `n` drops of an entry with count `c`: still the same MOC while `n < c`, dead from `n = c` on
    ("until it has been dropped once more than it was copied": the count is 1 + copies). -/
theorem drops (s : St) (i c : Nat) (v : Val) (n : Nat) (hinv : Inv s) (hl : lookup s i = some (c, v)) :
    lookup (run s (List.replicate n (Call.drop i))).1 i = if n < c then some (c - n, v) else none := by
  have dead : ∀ n s, lookup s i = none → (run s (List.replicate n (Call.drop i))).1 = s := by
    intro n s h
    induction n with
    | zero => rfl
    | succ n ih => simpa only [List.replicate_succ, run, step, dropMoc, h] using ih
  induction n generalizing s c with
  | zero => exact hl.trans (if_pos (hinv.2 i c v hl).1).symm
  | succ n ih =>
    obtain ⟨h, hinv'⟩ := step_refines_registry s (.drop i) hinv
    show lookup (run (step s (.drop i)).1 (List.replicate n (.drop i))).1 i = _
    -- to invert a `SpecStep` its output and final registry have to be variables: generalize them (`hm` keeps what the
    -- registry was), then `cases`
    generalize (step s (.drop i)).2 = o, hm : lookup (step s (.drop i)).1 = m' at h
    cases h with
    | dropLast hj =>
      cases hl.symm.trans hj
      rw [dead n _ (by rw [hm]; exact if_pos rfl), hm, if_neg (Nat.not_lt_of_le (Nat.le_add_left 1 n))]
      exact if_pos rfl
    | @dropMore _ d _ hj =>
      cases hl.symm.trans hj
      rw [ih _ _ hinv' (by rw [hm]; exact if_pos rfl)]
      show _ = if n + 1 < d + 1 + 1 then some (d + 1 + 1 - (n + 1), v) else none
      simp only [Nat.add_lt_add_iff_right, Nat.add_sub_add_right]
    | dropDead hj => cases hl.symm.trans hj
    | opOk hop | opErr hop => cases hop

/-- **Typed drops** (`drop_smoc` …): on an index of ANOTHER kind, or a dead one, the call is an error and the registry is
    unchanged; on an index of the right kind it is `drop`.  (The code used to decrement and remove first and look at
    the kind afterwards: /repo "fix: drop_smoc / … destroyed a MOC of another type".) -/
theorem typed_drop_spec (s : St) (k i : Nat) :
    (∀ v, valueAt s i = some v → v.kind ≠ k → dropKind s k i = (s, .err .kind)) ∧
    (valueAt s i = none → dropKind s k i = (s, .err .notFound)) ∧
    (∀ v, valueAt s i = some v → v.kind = k → dropKind s k i = step s (.drop i)) := by
  unfold dropKind
  refine ⟨fun v hv hk => ?_, fun hn => ?_, fun v hv hk => ?_⟩
  · rw [hv]; exact if_neg hk
  · rw [hn]
  · rw [hv]; exact if_pos hk

/-- A successful copy adds exactly one to the number of drops the index survives. -/
theorem copy_adds_one (s : St) (i c : Nat) (v : Val) (hinv : Inv s) (hl : lookup s i = some (c, v))
    (hc : c < 255) : lookup (step s (.copy i)).1 i = some (c + 1, v) ∧ (step s (.copy i)).2 = .unit := by
  simp only [step, copyMoc, hl, Nat.ne_of_lt hc, ↓reduceIte]
  rw [lookup_set (lookup_some_lt hl)]
  exact ⟨if_pos rfl, trivial⟩

/-- **Lock discipline**: whatever the state and the call, its lock sections never nest (a thread
    never requests the lock while holding it — with a single lock this is what excludes a thread
    waiting for itself or for a writer queued behind its own read section) and every section is
    closed when the call returns. -/
theorem lock_discipline (s : St) (c : Call) : Disciplined (lockTrace s c) := by
  cases c with
  | add v | copy i | drop i | get i => exact rfl
  | op1 f i | op2 f i j | opn f is => simp only [lockTrace]; cases readPhase s _ <;> exact rfl

/-- A nested read section (what a re-entrant helper would produce) is NOT disciplined. -/
example : ¬ Disciplined [.rAcq, .rAcq, .rRel, .rRel] := by decide

/-- **The two-phase operation is atomic**: if the operands still denote the same values when the
    write section runs, read-then-write returns exactly what the whole call returns when executed
    alone at the time of the write section. -/
theorem two_phase_is_atomic (s1 s2 : St) (c : Call) (v : Val) (hop : isOp c = true)
    (hr : readPhase s1 c = .ok v) (hst : ∀ i ∈ operands c, valueAt s2 i = valueAt s1 i) :
    step s2 c = ((insert s2 v).1, .idx (insert s2 v).2) := by
  rw [step_op hop, show readPhase s2 c = .ok v from readPhaseF_mono (fun i hi _ hw => (hst i hi).trans hw) hr]

def runT (s : St) : List (Nat × Call) → St × List (Nat × Out)
  | [] => (s, [])
  | (t, c) :: cs => let r := step s c; let r2 := runT r.1 cs; (r2.1, (t, r.2) :: r2.2)

/-- Every pending operation's stored result is what its read phase would compute now. -/
def PInv (cs : CSt) : Prop :=
  ∀ p ∈ cs.pend, isOp p.2.1 = true ∧ readPhase cs.st p.2.1 = .ok p.2.2

/-- Not used below: `concurrent_is_sequential` has the values of the pending operands only in the direction
    `some w ↦ some w`, from `value_stable_step`, and calls `readPhaseF_mono` itself (its local `keep`). -/
theorem pend_stable (cs : CSt) (s' : St) (hp : PInv cs)
    (hval : ∀ p ∈ cs.pend, ∀ i ∈ operands p.2.1, valueAt s' i = valueAt cs.st i) :
    PInv { st := s', pend := cs.pend } :=
  fun p hpm => ⟨(hp p hpm).1, readPhaseF_mono (fun i hi _ hw => (hval p hpm i hi).trans hw) (hp p hpm).2⟩

theorem pendOf_mem {p : List (Nat × Call × Val)} {t : Nat} {c : Call} {v : Val}
    (h : pendOf p t = some (c, v)) : (t, c, v) ∈ p := by
  obtain ⟨⟨a, _⟩, hf, rfl⟩ := Option.map_eq_some_iff.1 h
  have ht : a = t := by simpa using List.find?_some hf
  exact ht ▸ List.mem_of_find?_eq_some hf

/-- **Linearizability of the lock-section model**: for every interleaving of the threads' lock
    sections in which no operand of an in-flight operation is dropped, the concurrent execution gives
    every call the output — and leaves the store in the state — of the SEQUENTIAL execution of the
    calls in the order of their completion sections. -/
theorem concurrent_is_sequential (es : List Ev) (cs : CSt) (hinv : Inv cs.st) (hp : PInv cs)
    (hsafe : SafeTrace cs es) :
    (crun cs es).2 = (runT cs.st (linearize cs es)).2 ∧
    (crun cs es).1.st = (runT cs.st (linearize cs es)).1 := by
  induction es generalizing cs with
  | nil => exact ⟨rfl, rfl⟩
  | cons e es ih =>
    obtain ⟨hse, hst⟩ := hsafe
    -- pending reads stay valid across a call that drops none of their operands: these are live and keep their values
    have keep : ∀ c', (∀ p ∈ cs.pend, ∀ i ∈ operands p.2.1, c' ≠ .drop i) → ∀ p ∈ cs.pend,
        isOp p.2.1 = true ∧ readPhase (step cs.st c').1 p.2.1 = .ok p.2.2 := fun c' hc' p hpm =>
      ⟨(hp p hpm).1, readPhaseF_mono (fun i hi w hw =>
        value_stable_step cs.st c' i w hinv hw (hc' p hpm i hi)) (hp p hpm).2⟩
    cases e with
    | atomic t c =>
      have hp' : PInv (cstep cs (.atomic t c)).1 :=
        keep c fun p hpm i hi hc => by subst hc; exact hse p hpm hi
      obtain ⟨i1, i2⟩ := ih (cstep cs (.atomic t c)).1 (step_refines_registry cs.st c hinv).2 hp' hst
      simp only [crun, linearize, runT]
      exact ⟨by rw [i1]; rfl, by rw [i2]; rfl⟩
    | read t c =>
      have hop := hse.1
      cases hr : readPhase cs.st c with
      | ok v =>
        simp only [crun, linearize, cstep, hr] at hst ⊢
        exact ih { cs with pend := (t, c, v) :: cs.pend } hinv (List.forall_mem_cons.2 ⟨⟨hop, hr⟩, hp⟩) hst
      | error er =>
        simp only [crun, linearize, cstep, hr, runT, step_op hop] at hst ⊢
        obtain ⟨i1, i2⟩ := ih cs hinv hp hst
        exact ⟨by rw [i1], i2⟩
    | write t =>
      cases hpo : pendOf cs.pend t with
      | none =>
        simp only [crun, linearize, cstep, hpo] at hst ⊢
        exact ih cs hinv hp hst
      | some cv =>
        obtain ⟨c, v⟩ := cv
        obtain ⟨hop, hok⟩ := hp _ (pendOf_mem hpo)
        -- the write section is an `add`
        have hp' : PInv { st := (insert cs.st v).1, pend := cs.pend.filter (·.1 != t) } := fun p hpm =>
          keep (.add v) (fun _ _ _ _ h => nomatch h) p (List.mem_filter.1 hpm).1
        simp only [crun, linearize, cstep, hpo, runT,
          two_phase_is_atomic cs.st cs.st c v hop hok (fun _ _ => rfl)] at hst ⊢
        obtain ⟨i1, i2⟩ := ih _ (insert_spec cs.st v hinv).2.2 hp' hst
        exact ⟨by rw [i1], i2⟩

/-- The linearization has at most one entry per lock section of the trace.  (That it respects real time is not
    stated: it is read off the definition of `linearize`, which walks the trace once and lists a call at the section in
    which it completes — one of ITS OWN lock sections, so two calls that do not overlap in time come in the order in
    which they were issued.) -/
theorem linearize_length_le (es : List Ev) (cs : CSt) : (linearize cs es).length ≤ es.length := by
  induction es generalizing cs with
  | nil => exact Nat.le_refl _
  | cons e es ih =>
    cases e with
    | atomic t c => exact Nat.succ_le_succ (ih _)
    | read t c =>
      simp only [linearize]
      split
      · exact Nat.le_succ_of_le (ih _)
      · exact Nat.succ_le_succ (ih _)
    | write t =>
      simp only [linearize]
      split
      · exact Nat.succ_le_succ (ih _)
      · exact Nat.le_succ_of_le (ih _)

/-! Non-vacuity: a concrete interleaving of two threads satisfying the hypotheses. -/
def vA : Val := { kind := 0, depth := 1, rs := [(0, 4)] }
def exTrace : List Ev :=
  [.atomic 0 (.add vA), .read 1 (.op1 (fun v => .ok v) 0), .atomic 2 (.copy 0),
   .read 2 (.op1 (fun v => .ok v) 0), .write 2, .atomic 2 (.drop 1), .write 1, .atomic 0 (.get 1)]
example : SafeTrace { st := St.init, pend := [] } exTrace :=
  ⟨rfl, ⟨rfl, rfl⟩, rfl, ⟨rfl, rfl⟩, trivial, fun _ hp => by cases List.mem_singleton.1 hp; decide,
    trivial, rfl, trivial⟩
example : ((crun { st := St.init, pend := [] } exTrace).2.map (·.1)) = [0, 2, 2, 2, 1, 0] := by decide

end Moc.Store.C13
