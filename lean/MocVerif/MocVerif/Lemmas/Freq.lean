/-
  Frequencies as indices: on the accepted bit patterns — an interval — `freqHash64` is the translation by
  `bias·2^52`, so it carries intervals of accepted patterns onto intervals of indices.
-/
import MocVerif.Model.Freq

namespace Moc

/-- `FREQ_MAX` is the last pattern of an exponent window of 256 values that starts at the bias. -/
theorem freqMaxBits_succ : freqMaxBits + 1 = (Params.freqBiasEnc + 256) * two52 := by decide

theorem freqValid_iff (b : Nat) :
    freqValid b = true ↔ Params.freqBiasEnc * two52 ≤ b ∧ b < (Params.freqBiasEnc + 256) * two52 := by
  rw [freqValid, Bool.and_eq_true, decide_eq_true_eq, decide_eq_true_eq, ← freqMaxBits_succ, Nat.lt_succ_iff]
  -- `freqMinBits` is `freqExpMin · 2^52`, and the window starts at the bias: `freqExpMin = freqBiasEnc`
  exact Iff.rfl

theorem freqValid_convex {a c : Nat} (ha : freqValid a = true) (hc : freqValid c = true) (b : Nat)
    (h1 : a ≤ b) (h2 : b ≤ c) : freqValid b = true := by
  rw [freqValid_iff] at *
  exact ⟨Nat.le_trans ha.1 h1, Nat.lt_of_le_of_lt h2 hc.2⟩

theorem freq2hash_of_valid (w : Nat) {b : Nat} (hv : freqValid b = true) :
    freq2hash w b = some (narrow (64 - w) (freqHash64 b)) := if_pos hv

theorem freqRangeIdx_of_valid (w : Nat) {r : Rng} (h1 : freqValid r.1 = true) (h2 : freqValid r.2 = true) :
    freqRangeIdx w r = some (narrow (64 - w) (freqHash64 r.1), narrowUp (64 - w) (freqHash64 r.2)) := by
  rw [freqRangeIdx, freq2hash_of_valid w h1, freq2hash_of_valid w h2]

/-- The exponent of an accepted value is at least the bias, so the truncated subtraction of `freqHash64` is exact. -/
theorem freqHash64_add (b : Nat) (hv : freqValid b = true) : freqHash64 b + Params.freqBiasEnc * two52 = b := by
  have hge : Params.freqBiasEnc ≤ b / two52 :=
    (Nat.le_div_iff_mul_le (Nat.two_pow_pos 52)).2 ((freqValid_iff b).1 hv).1
  rw [freqHash64, Nat.add_right_comm, ← Nat.add_mul, Nat.sub_add_cancel hge, Nat.mul_comm]
  exact Nat.div_add_mod b two52

/-- `freqHash64` carries the accepted patterns of `[a, c)` onto the indices of `[freqHash64 a, freqHash64 c)`: a statement
    `P` about the narrowed index of some `t` in the latter is one about `freq2hash w b` for some `b` in the former. -/
theorem freq_interval (w a c : Nat) (ha : freqValid a = true) (hc : freqValid c = true) (P : Nat → Prop) :
    (∃ t, freqHash64 a ≤ t ∧ t < freqHash64 c ∧ P (narrow (64 - w) t)) ↔
      ∃ b, a ≤ b ∧ b < c ∧ ∃ h, freq2hash w b = some h ∧ P h := by
  have e1 := freqHash64_add a ha
  have e2 := freqHash64_add c hc
  constructor
  · rintro ⟨t, h1, h2, h3⟩
    -- `t` is the index of the bit pattern `t + bias·2^52`
    have hb1 : a ≤ t + Params.freqBiasEnc * two52 := e1 ▸ Nat.add_le_add_right h1 _
    have hb2 : t + Params.freqBiasEnc * two52 < c := e2 ▸ Nat.add_lt_add_right h2 _
    have hv := freqValid_convex ha hc _ hb1 (Nat.le_of_lt hb2)
    have : freqHash64 (t + Params.freqBiasEnc * two52) = t := Nat.add_right_cancel (freqHash64_add _ hv)
    exact ⟨_, hb1, hb2, _, freq2hash_of_valid w hv, this.symm ▸ h3⟩
  · rintro ⟨b, h1, h2, h, hf, h3⟩
    have hv := freqValid_convex ha hc b h1 (Nat.le_of_lt h2)
    have e3 := freqHash64_add b hv
    cases (freq2hash_of_valid w hv).symm.trans hf
    rw [← e1, ← e3] at h1
    rw [← e2, ← e3] at h2
    exact ⟨_, Nat.le_of_add_le_add_right h1, Nat.lt_of_add_lt_add_right h2, h3⟩

end Moc
