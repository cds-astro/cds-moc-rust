/-
  T/F expansion and contraction.  The points whose cell is equal or adjacent to the cell `X = x / c` of `x` form
  the interval `[c (X − 1), c (X + 2))`: `x` is in the grown range iff that interval meets the range, in the
  shrunk range iff the part of it inside the domain lies in the range.  Every bound involved is a multiple of
  the cell size `c`, so each comparison is first turned into a comparison of cell indices.
-/
import MocVerif.Lemmas.Canon
import MocVerif.Lemmas.Shift
import MocVerif.Model.Morpho

namespace Moc

theorem ite_rel_iff {p : Prop} [Decidable p] {α : Type} (R : α → Prop) (a b : α) :
    R (if p then a else b) ↔ (p → R a) ∧ (¬ p → R b) := by
  split <;> rename_i h
  · exact ⟨fun k => ⟨fun _ => k, fun n => absurd h n⟩, fun k => k.1 h⟩
  · exact ⟨fun k => ⟨fun h' => absurd h' h, fun _ => k⟩, fun k => k.2 h⟩

theorem sub_div_cell (c m : Nat) : (m - c) / c = m / c - 1 := by
  have := Nat.sub_mul_div m c 1
  rw [Nat.mul_one] at this; exact this

theorem near_iff {c : Nat} (hc : 0 < c) (X y : Nat) :
    X ≤ y / c + 1 ∧ y / c ≤ X + 1 ↔ c * (X - 1) ≤ y ∧ y < c * (X + 2) := by
  rw [mul_le_iff hc, lt_mul_iff hc, Nat.sub_le_iff_le_add, Nat.lt_succ_iff]

theorem exists_mem_inter {a b a' b' : Nat} (h : a < b) (h' : a' < b') :
    (∃ y, a ≤ y ∧ y < b ∧ a' ≤ y ∧ y < b') ↔ a < b' ∧ a' < b := by
  constructor
  · rintro ⟨y, h1, h2, h3, h4⟩
    exact ⟨Nat.lt_of_le_of_lt h1 h4, Nat.lt_of_le_of_lt h3 h2⟩
  · rintro ⟨h1, h2⟩
    rcases Nat.le_total a a' with k | k
    · exact ⟨a', k, h2, Nat.le_refl _, h'⟩
    · exact ⟨a, Nat.le_refl _, h, k, h1⟩

-- Four lemmas: a bound that `tfGrow` / `tfShrink` computes from an aligned bound `m`, against the neighbourhood of `x`.
theorem grow_lo {c m : Nat} (hc : 0 < c) (hm : c ∣ m) (x : Nat) :
    m - c ≤ x ↔ m < c * (x / c + 2) := by
  rw [lt_mul_iff hc, Nat.lt_succ_iff, al_le_iff hc (Nat.dvd_sub hm (Nat.dvd_refl c)), sub_div_cell, Nat.sub_le_iff_le_add]

theorem shrink_lo {c m : Nat} (hc : 0 < c) (hm : c ∣ m) (x : Nat) :
    (if m > 0 then m + c else m) ≤ x ↔ m ≤ c * (x / c - 1) := by
  rw [al_le_iff hc hm (c * _), Nat.mul_div_cancel_left _ hc]
  split
  · rename_i h
    have h0 := (al_lt_iff hc hm 0).1 h
    rw [Nat.zero_div] at h0
    rw [al_le_iff hc (Nat.dvd_add hm (Nat.dvd_refl c)), Nat.add_div_right _ hc]
    exact ⟨Nat.le_sub_of_add_le, fun k =>
      Nat.add_le_of_le_sub (Nat.le_of_lt (Nat.lt_of_sub_pos (Nat.lt_of_lt_of_le h0 k))) k⟩
  · rename_i h
    obtain rfl := Nat.eq_zero_of_not_pos h
    rw [Nat.zero_div]
    exact iff_of_true (Nat.zero_le _) (Nat.zero_le _)

theorem grow_hi {c m ub : Nat} (hc : 0 < c) (hm : c ∣ m) (hu : c ∣ ub) (hmu : m ≤ ub) (h0 : 0 < m) (x : Nat) :
    x < (if m < ub then m + c else m) ↔ x < ub ∧ c * (x / c - 1) < m := by
  -- `c (x/c − 1) < m` is `¬ m ≤ c (x/c − 1)`, which `shrink_lo` reads as `¬ m + c ≤ x`
  rw [← Nat.not_le (a := m), ← shrink_lo hc hm x, if_pos h0, Nat.not_le]
  split
  · rename_i h
    have : m + c ≤ ub := add_le_of_dvd hm hu h
    exact ⟨fun k => ⟨Nat.lt_of_lt_of_le k this, k⟩, And.right⟩
  · rename_i h
    obtain rfl : m = ub := Nat.le_antisymm hmu (Nat.le_of_not_lt h)
    exact ⟨fun k => ⟨k, Nat.lt_add_right c k⟩, And.left⟩

theorem shrink_hi {c m ub : Nat} (hc : 0 < c) (hm : c ∣ m) (hu : c ∣ ub) (hmu : m ≤ ub) (x : Nat) :
    x < (if m < ub then m - c else m) ↔ x < ub ∧ c * min (x / c + 2) (ub / c) ≤ m := by
  rw [al_lt_iff hc hu x, mul_le_iff hc]
  split
  · rename_i h
    have h2 := (al_lt_iff hc hu m).1 h
    rw [al_lt_iff hc (Nat.dvd_sub hm (Nat.dvd_refl c)), sub_div_cell, Nat.lt_sub_iff_add_lt]
    refine ⟨fun k => ⟨Nat.lt_trans (Nat.lt_of_succ_lt k) h2, Nat.le_trans (Nat.min_le_left _ _) k⟩, fun k => ?_⟩
    rcases Nat.le_total (x / c + 2) (ub / c) with hm | hm
    · rw [Nat.min_eq_left hm] at k; exact k.2
    · rw [Nat.min_eq_right hm] at k; exact absurd h2 (Nat.not_lt.2 k.2)
  · rename_i h
    obtain rfl : m = ub := Nat.le_antisymm hmu (Nat.le_of_not_lt h)
    rw [al_lt_iff hc hm x]
    exact ⟨fun k => ⟨k, Nat.min_le_right _ _⟩, And.left⟩

theorem nbhd_lt {c : Nat} (hc : 0 < c) (X : Nat) : c * (X - 1) < c * (X + 2) :=
  Nat.mul_lt_mul_of_pos_left (Nat.lt_of_le_of_lt (Nat.sub_le X 1) (Nat.lt_add_of_pos_right (Nat.succ_pos 1))) hc

theorem nbhd_iff {c ub : Nat} (hc : 0 < c) (hu : c ∣ ub) (X : Nat) (p : Nat → Prop) :
    (∀ y, y < ub → X ≤ y / c + 1 → y / c ≤ X + 1 → p y) ↔
      (∀ y, c * (X - 1) ≤ y → y < c * min (X + 2) (ub / c) → p y) := by
  refine forall_congr' fun y => ?_
  have n := near_iff hc X y
  rw [lt_mul_iff hc, Nat.lt_min, ← lt_mul_iff hc, ← al_lt_iff hc hu]
  exact ⟨fun h a b => h b.2 (n.2 ⟨a, b.1⟩).1 (n.2 ⟨a, b.1⟩).2, fun h a b d => h (n.1 ⟨b, d⟩).1 ⟨(n.1 ⟨b, d⟩).2, a⟩⟩

theorem nbhd_nonempty {c ub x : Nat} (hc : 0 < c) (hu : c ∣ ub) (hx : x < ub) :
    c * (x / c - 1) < c * min (x / c + 2) (ub / c) := by
  have := (al_lt_iff hc hu x).1 hx
  have h1 := Nat.sub_le (x / c) 1
  exact Nat.mul_lt_mul_of_pos_left (Nat.lt_min.2
    ⟨Nat.lt_of_le_of_lt h1 (Nat.lt_add_of_pos_right (Nat.succ_pos 1)), Nat.lt_of_le_of_lt h1 this⟩) hc

theorem tfGrow_fst (c ub : Nat) (r : Rng) : (tfGrow c ub r).1 = r.1 - c :=
  (ite_rel_iff (· = r.1 - c) _ _).2 ⟨fun _ => rfl, fun h => by rw [Nat.eq_zero_of_not_pos h, Nat.zero_sub]⟩

theorem le_tfGrow_snd (c ub : Nat) (r : Rng) : r.2 ≤ (tfGrow c ub r).2 :=
  (ite_rel_iff (r.2 ≤ ·) _ _).2 ⟨fun _ => Nat.le_add_right _ _, fun _ => Nat.le_refl _⟩

theorem mem_tfGrow (c ub : Nat) (hc : 0 < c) (r : Rng) (hr : r.1 < r.2) (hub : r.2 ≤ ub)
    (h1 : c ∣ r.1) (h2 : c ∣ r.2) (h3 : c ∣ ub) (x : Nat) :
    ((tfGrow c ub r).1 ≤ x ∧ x < (tfGrow c ub r).2) ↔
      x < ub ∧ ∃ y, r.1 ≤ y ∧ y < r.2 ∧ x / c ≤ y / c + 1 ∧ y / c ≤ x / c + 1 := by
  simp only [near_iff hc]
  rw [exists_mem_inter hr (nbhd_lt hc _), tfGrow_fst, grow_lo hc h1]
  show _ ∧ x < (if r.2 < ub then r.2 + c else r.2) ↔ _
  rw [grow_hi hc h2 h3 hub (Nat.zero_lt_of_lt hr)]
  exact ⟨fun ⟨a, b, d⟩ => ⟨b, a, d⟩, fun ⟨b, a, d⟩ => ⟨a, b, d⟩⟩

theorem shrink_aux (s e x : Nat) :
    (∃ q : Rng, (if s < e then some (s, e) else none) = some q ∧ q.1 ≤ x ∧ x < q.2) ↔ (s ≤ x ∧ x < e) := by
  constructor
  · rintro ⟨q, hq, q1, q2⟩
    split at hq
    · cases hq; exact ⟨q1, q2⟩
    · cases hq
  · rintro ⟨h1, h2⟩
    exact ⟨_, if_pos (Nat.lt_of_le_of_lt h1 h2), h1, h2⟩

theorem mem_tfShrink (c ub : Nat) (r : Rng) (x : Nat) :
    (∃ s, tfShrink c ub r = some s ∧ s.1 ≤ x ∧ x < s.2) ↔
      (if r.1 > 0 then r.1 + c else r.1) ≤ x ∧ x < (if r.2 < ub then r.2 - c else r.2) :=
  shrink_aux _ _ x

theorem tfShrink_some (c ub : Nat) (r s : Rng) (h : tfShrink c ub r = some s) :
    r.1 ≤ s.1 ∧ s.1 < s.2 ∧ s.2 ≤ r.2 := by
  obtain ⟨hlt, h⟩ := Option.ite_none_right_eq_some.1 h
  cases h
  exact ⟨(ite_rel_iff (r.1 ≤ ·) _ _).2 ⟨fun _ => Nat.le_add_right _ _, fun _ => Nat.le_refl _⟩, hlt,
    (ite_rel_iff (· ≤ r.2) _ _).2 ⟨fun _ => Nat.sub_le _ _, fun _ => Nat.le_refl _⟩⟩

theorem tfContracted_canon (c ub : Nat) {lo : Nat} {l : List Rng} (hl : CanonFrom lo l) :
    CanonFrom lo (tfContracted c ub l) := by
  unfold tfContracted
  induction l generalizing lo with
  | nil => trivial
  | cons r t ih =>
    obtain ⟨h1, h2, h3⟩ := hl
    rw [List.filterMap_cons]
    cases hs : tfShrink c ub r with
    | none => exact (ih h3).mono (Nat.le_succ_of_le (Nat.le_trans h1 (Nat.le_of_lt h2)))
    | some s =>
      have k := tfShrink_some c ub r s hs
      exact ⟨Nat.le_trans h1 k.1, k.2.1, (ih h3).mono (Nat.succ_le_succ k.2.2)⟩

theorem mem_tfContracted (c ub : Nat) (l : List Rng) (x : Nat) :
    mem x (tfContracted c ub l) ↔ ∃ r ∈ l, ∃ s, tfShrink c ub r = some s ∧ s.1 ≤ x ∧ x < s.2 := by
  unfold tfContracted
  rw [mem_iff_exists]
  exact ⟨fun ⟨s, hs, h⟩ => let ⟨r, hr, hrs⟩ := List.mem_filterMap.1 hs; ⟨r, hr, s, hrs, h⟩,
    fun ⟨r, hr, s, hrs, h⟩ => ⟨s, List.mem_filterMap.2 ⟨r, hr, hrs⟩, h⟩⟩

end Moc
