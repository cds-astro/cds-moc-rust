/-
  Lemmas for the moc-set file model (C14, C16): metadata word packing, little-endian words, the
  reader, and the simulation relation `Rep` between files and abstract moc-sets that every command
  preserves.
-/
import MocVerif.Model.MocSetFile
import MocVerif.Lemmas.MocSet
import MocVerif.Lemmas.Shift
import MocVerif.Lemmas.ListFacts

namespace Moc.MsFile
open Moc

/-! ### The metadata word -/

theorem pack_eq (st d id : Nat) (hd : d < 256) :
    pack st d id = (st * 2 ^ 8 + d) * 2 ^ 48 + id % 2 ^ 48 := by
  unfold pack idMask
  rw [Nat.and_two_pow_sub_one_eq_mod, show (56 : Nat) = 8 + 48 from rfl, Nat.shiftLeft_add,
    ← Nat.shiftLeft_or_distrib, ← Nat.shiftLeft_add_eq_or_of_lt (show d < 2 ^ 8 from hd),
    ← Nat.shiftLeft_add_eq_or_of_lt (Nat.mod_lt _ (Nat.two_pow_pos 48)), Nat.shiftLeft_eq, Nat.shiftLeft_eq]

theorem unpack (st d id : Nat) (hs : st < 4) (hd : d < 256) :
    wStatus (pack st d id) = st ∧ wDepth (pack st d id) = d ∧ wId (pack st d id) = id % 2 ^ 48 := by
  have hr : id % 2 ^ 48 < 2 ^ 48 := Nat.mod_lt _ (Nat.two_pow_pos 48)
  have hq : pack st d id / 2 ^ 48 = d + st * 2 ^ 8 := by
    rw [pack_eq st d id hd, Nat.add_comm, Nat.add_mul_div_right _ _ (Nat.two_pow_pos 48), Nat.div_eq_of_lt hr,
      Nat.zero_add, Nat.add_comm]
  refine ⟨?_, ?_, ?_⟩
  · unfold wStatus
    rw [show (3 : Nat) = 2 ^ 2 - 1 from rfl, Nat.and_two_pow_sub_one_eq_mod, Nat.shiftRight_eq_div_pow,
      show (56 : Nat) = 48 + 8 from rfl, Nat.pow_add, ← Nat.div_div_eq_div_mul, hq,
      Nat.add_mul_div_right _ _ (Nat.two_pow_pos 8), Nat.div_eq_of_lt hd, Nat.zero_add, Nat.mod_eq_of_lt hs]
  · unfold wDepth
    rw [Nat.shiftRight_eq_div_pow, hq]
    exact (Nat.add_mul_mod_self_right ..).trans (Nat.mod_eq_of_lt hd)
  · unfold wId idMask
    rw [Nat.and_two_pow_sub_one_eq_mod, pack_eq st d id hd, Nat.add_comm, Nat.add_mul_mod_self_right, Nat.mod_mod]

theorem pack_ne_zero (st d id : Nat) (hs : 1 ≤ st) (hd : d < 256) : pack st d id ≠ 0 := by
  rw [pack_eq st d id hd]
  exact Nat.ne_of_gt (Nat.lt_of_lt_of_le
    (Nat.mul_pos (Nat.lt_of_lt_of_le (Nat.mul_pos hs (Nat.two_pow_pos 8)) (Nat.le_add_right ..)) (Nat.two_pow_pos 48))
    (Nat.le_add_right ..))

theorem wStatus_lt (w : Nat) : wStatus w < 4 := by
  unfold wStatus
  rw [show (3 : Nat) = 2 ^ 2 - 1 from rfl, Nat.and_two_pow_sub_one_eq_mod]
  exact Nat.mod_lt _ (by decide)

theorem wDepth_lt (w : Nat) : wDepth w < 256 := Nat.mod_lt _ (by decide)

theorem wId_lt (w : Nat) : wId w < 2 ^ 48 := by
  unfold wId idMask
  rw [Nat.and_two_pow_sub_one_eq_mod]
  exact Nat.mod_lt _ (by decide)

theorem wStatus_zero : wStatus 0 = 0 := by decide

/-- Valid or deprecated = above removed: a status is on two bits. -/
theorem live_word (w : Nat) : (wStatus w == 3 || wStatus w == 2) = decide (wStatus w > 1) := by
  have := wStatus_lt w
  generalize wStatus w = x at this
  match x, this with
  | 0, _ | 1, _ | 2, _ | 3, _ => rfl

theorem pack_wId (a b w : Nat) (hb : b < 256) : pack a b (wId w) = pack a b (wId w % 2 ^ 48) := by
  rw [pack_eq a b _ hb, pack_eq a b _ hb, Nat.mod_mod]

/-! ### Little-endian words -/

theorem toLE_length (k x : Nat) : (toLE k x).length = k := by
  induction k generalizing x with
  | zero => rfl
  | succ k ih => rw [toLE, List.length_cons, ih]

theorem fromLE_toLE (k x : Nat) (h : x < 256 ^ k) : fromLE (toLE k x) = x := by
  induction k generalizing x with
  | zero => rw [Nat.pow_zero, Nat.lt_one_iff] at h; subst h; rfl
  | succ k ih =>
    have : x / 256 < 256 ^ k := Nat.div_lt_of_lt_mul (by rw [Nat.mul_comm, ← Nat.pow_succ]; exact h)
    rw [toLE, fromLE, ih _ this]
    exact Nat.mod_add_div x 256

theorem encWords_length (k : Nat) (ws : List Nat) : (encWords k ws).length = k * ws.length := by
  induction ws with
  | nil => rfl
  | cons x t ih => rw [encWords, List.length_append, toLE_length, ih, List.length_cons, Nat.mul_succ, Nat.add_comm]

theorem decWords_encWords (k : Nat) (ws : List Nat) (h : ∀ x ∈ ws, x < 256 ^ k) (rest : List Nat) :
    decWords k ws.length (encWords k ws ++ rest) = ws := by
  induction ws with
  | nil => rfl
  | cons x t ih =>
    rw [encWords, List.length_cons, decWords, List.append_assoc, List.take_left' (toLE_length k x),
      List.drop_left' (toLE_length k x), fromLE_toLE k x (h x List.mem_cons_self),
      ih fun y hy => h y (List.mem_cons_of_mem _ hy)]

theorem pairs_flatten2_map (f : Nat → Nat) (rs : List Rng) :
    pairs ((flatten2 rs).map f) = rs.map fun r => (f r.1, f r.2) := by
  induction rs with
  | nil => rfl
  | cons r t ih => simp [flatten2, pairs, ih]

theorem flatten2_length (rs : List Rng) : (flatten2 rs).length = 2 * rs.length := by
  induction rs with
  | nil => rfl
  | cons r t ih => rw [flatten2, List.length_cons, List.length_cons, ih, List.length_cons, Nat.mul_succ]

theorem forall_mem_flatten2 {P : Nat → Prop} (rs : List Rng) :
    (∀ y ∈ flatten2 rs, P y) ↔ ∀ r ∈ rs, P r.1 ∧ P r.2 := by
  induction rs with
  | nil => simp [flatten2]
  | cons r t ih => simp only [flatten2, List.forall_mem_cons, ih, and_assoc]

/-- What `make` / `append` accept: a status that is not `void`, fields that fit their bit fields,
    ranges representable at the storage scale of the depth. -/
def EntryOk (e : MsEntry) : Prop :=
  1 ≤ e.status ∧ e.status < 4 ∧ e.depth < 256 ∧ e.id < 2 ^ 48 ∧
  ∀ r ∈ e.ranges, (2 ^ stoShift e.depth ∣ r.1 ∧ 2 ^ stoShift e.depth ∣ r.2) ∧
    r.1 >>> stoShift e.depth < 256 ^ elemBytes e.depth ∧ r.2 >>> stoShift e.depth < 256 ^ elemBytes e.depth

theorem elemBytes_pos (d : Nat) : 0 < elemBytes d := by unfold elemBytes; split <;> decide

theorem bytesRanges_entryBytes (e : MsEntry) (h : EntryOk e) : bytesRanges e.depth (entryBytes e) = e.ranges := by
  obtain ⟨_, _, _, _, hr⟩ := h
  unfold bytesRanges entryBytes
  simp only []
  rw [encWords_length, Nat.mul_div_cancel_left _ (elemBytes_pos e.depth), ← List.append_nil (encWords _ _),
    decWords_encWords]
  · rw [List.map_map, pairs_flatten2_map]
    refine map_eq_self fun r hr' => ?_
    have := hr r hr'
    simp only [Function.comp, shr_shl_of_dvd _ _ this.1.1, shr_shl_of_dvd _ _ this.1.2]
  · exact List.forall_mem_map.2 ((forall_mem_flatten2 e.ranges).2 fun r hr' => (hr r hr').2)

theorem entryBytes_length (e : MsEntry) : (entryBytes e).length = e.ranges.length * 2 * elemBytes e.depth := by
  unfold entryBytes
  rw [encWords_length, List.length_map, flatten2_length]
  rw [Nat.mul_comm, Nat.mul_comm 2]

/-! ### Items: a stored entry and what is decoded from it -/

def itemEntry (it : Item) : MsEntry :=
  { id := wId it.1, status := wStatus it.1, depth := wDepth it.1, ranges := bytesRanges (wDepth it.1) it.2 }

def repack (it : Item) : Item := (pack (wStatus it.1) (wDepth it.1) (wId it.1), it.2)

theorem fields_itemOf {e : MsEntry} (h : EntryOk e) :
    wStatus (itemOf e).1 = e.status ∧ wDepth (itemOf e).1 = e.depth ∧ wId (itemOf e).1 = e.id := by
  obtain ⟨_, h2, h3, h4, _⟩ := h
  have := unpack e.status e.depth e.id h2 h3
  rwa [Nat.mod_eq_of_lt h4] at this

theorem itemEntry_itemOf (e : MsEntry) (h : EntryOk e) : itemEntry (itemOf e) = e := by
  obtain ⟨u1, u2, u3⟩ := fields_itemOf h
  unfold itemEntry
  rw [u1, u2, u3]
  show MsEntry.mk e.id e.status e.depth (bytesRanges e.depth (entryBytes e)) = e
  rw [bytesRanges_entryBytes e h]

theorem repack_itemOf (x : MsEntry) (h : EntryOk x) : repack (itemOf x) = itemOf x := by
  obtain ⟨u1, u2, u3⟩ := fields_itemOf h
  unfold repack
  rw [u1, u2, u3]
  rfl

theorem itemOf_nz {l : List MsEntry} (hok : ∀ x ∈ l, EntryOk x) : ∀ it ∈ l.map itemOf, it.1 ≠ 0 := by
  intro it hit
  obtain ⟨x, hx, rfl⟩ := List.mem_map.1 hit
  exact pack_ne_zero _ _ _ (hok x hx).1 (hok x hx).2.2.1

theorem EntryOk.chgEntry {st : Nat} (hst : 1 ≤ st ∧ st < 4) (ids : List Nat) {x : MsEntry} (h : EntryOk x) :
    EntryOk (chgEntry st ids x) := by
  fun_cases Moc.chgEntry st ids x with
  | case1 => exact ⟨hst.1, hst.2, h.2.2⟩
  | case2 => exact h

/-! ### The reader -/

def rowsOf (s : Nat) : List Item → List (Nat × Nat × Nat)
  | [] => []
  | it :: t => (it.1, s, s + it.2.length) :: rowsOf (s + it.2.length) t

theorem zeros_succ (z : Nat) : zeros (z + 1) = 0 :: zeros z := rfl

theorem readRows_zeros (L z : Nat) (idx : List Nat) : readRows L (zeros z) idx = [] := by
  cases z with
  | zero => simp [zeros, readRows]
  | succ z => rcases idx with _ | ⟨_, _ | _⟩ <;> simp [zeros_succ, readRows]

theorem readRows_build (L z : Nat) (rest : List Nat) : ∀ (items : List Item) (s : Nat),
    (∀ it ∈ items, it.1 ≠ 0) → s + (dataOf items).length ≤ L →
    readRows L (items.map (·.1) ++ zeros z) (s :: (idxFrom s items ++ rest)) = rowsOf s items := by
  intro items
  induction items with
  | nil => intro s _ _; simp [readRows_zeros, rowsOf]
  | cons it t ih =>
    intro s hnz hL
    have h1 : it.1 ≠ 0 := hnz it List.mem_cons_self
    rw [show dataOf (it :: t) = it.2 ++ dataOf t from rfl, List.length_append, ← Nat.add_assoc] at hL
    have h2 : s + it.2.length ≤ L := Nat.le_trans (Nat.le_add_right ..) hL
    simp only [List.map_cons, List.cons_append, idxFrom, readRows, h1, h2, ↓reduceIte, rowsOf]
    rw [ih (s + it.2.length) (fun x hx => hnz x (List.mem_cons_of_mem _ hx)) hL]

theorem slice_mid (pre b post : List Nat) (a c : Nat) (ha : a = pre.length) (hc : c = pre.length + b.length) :
    slice (pre ++ (b ++ post)) a c = b := by
  subst ha hc
  unfold slice
  rw [List.drop_left, Nat.add_sub_cancel_left, List.take_left]

def rowRaw (hdr : Nat) (data : List Nat) (r : Nat × Nat × Nat) : Item :=
  (r.1, slice data (r.2.1 - hdr) (r.2.2 - hdr))

theorem rowEntry_raw (hdr : Nat) (data : List Nat) : rowEntry hdr data = itemEntry ∘ rowRaw hdr data := rfl
theorem rowItem_raw (hdr : Nat) (data : List Nat) : rowItem hdr data = repack ∘ rowRaw hdr data := rfl

theorem rows_raw (hdr : Nat) (tail : List Nat) : ∀ (items : List Item) (pre : List Nat),
    (rowsOf (hdr + pre.length) items).map (rowRaw hdr (pre ++ (dataOf items ++ tail))) = items := by
  intro items
  induction items with
  | nil => intro _; rfl
  | cons it t ih =>
    intro pre
    have := ih (pre ++ it.2)
    rw [List.length_append, ← Nat.add_assoc, List.append_assoc] at this
    simp only [rowsOf, List.map_cons, dataOf, List.append_assoc, this, rowRaw]
    rw [slice_mid pre it.2 _ _ _ (Nat.add_sub_cancel_left ..) (by rw [Nat.add_assoc, Nat.add_sub_cancel_left])]

/-- The items a reader finds in a file: `abs` decodes them, `purge` re-packs the live ones. -/
def items (f : File) : List Item := f.rows.map (rowRaw (hdrBytes f.n128) f.data)

theorem abs_eq (f : File) : abs f = ⟨f.n128, (items f).map itemEntry⟩ := by
  unfold abs items; rw [List.map_map, rowEntry_raw]

theorem filePurge_eq (f : File) (k : Option Nat) :
    filePurge f k = (build (max (k.getD 1) f.n128)
      (((items f).filter fun it => decide (wStatus it.1 > 1)).map repack) [], true) := by
  unfold filePurge items
  rw [List.filter_map, List.map_map, rowItem_raw]
  rfl

/-- The shape of `build`, not `build` itself: `z`, `rest` and `tail` are free, so that this also reads the file an
    interrupted `append` leaves (`fileAppendPrefix_canon`). -/
theorem rows_shape (n : Nat) (its : List Item) (z : Nat) (rest tail : List Nat) (hnz : ∀ it ∈ its, it.1 ≠ 0) :
    File.rows ⟨n, its.map (·.1) ++ zeros z, hdrBytes n :: (idxFrom (hdrBytes n) its ++ rest), dataOf its ++ tail⟩
      = rowsOf (hdrBytes n) its :=
  readRows_build _ z rest its (hdrBytes n) hnz
    (by show _ ≤ hdrBytes n + (dataOf its ++ tail).length; rw [List.length_append]; omega)

theorem items_shape (n : Nat) (its : List Item) (z : Nat) (rest tail : List Nat) (hnz : ∀ it ∈ its, it.1 ≠ 0) :
    items ⟨n, its.map (·.1) ++ zeros z, hdrBytes n :: (idxFrom (hdrBytes n) its ++ rest), dataOf its ++ tail⟩ = its := by
  unfold items
  rw [rows_shape n its z rest tail hnz]
  exact rows_raw (hdrBytes n) tail its []

theorem abs_shape (n : Nat) (l : List MsEntry) (z : Nat) (rest tail : List Nat) (hok : ∀ x ∈ l, EntryOk x) :
    abs ⟨n, (l.map itemOf).map (·.1) ++ zeros z, hdrBytes n :: (idxFrom (hdrBytes n) (l.map itemOf) ++ rest),
      dataOf (l.map itemOf) ++ tail⟩ = ⟨n, l⟩ := by
  rw [abs_eq, items_shape _ _ _ _ _ (itemOf_nz hok), List.map_map (g := itemEntry)]
  exact congrArg _ (map_eq_self fun e he => itemEntry_itemOf e (hok e he))

/-! ### The simulation relation -/

/-- `f` is the canonical file of the moc-set `s` (acceptable entries), possibly followed by bytes an
    interrupted append left behind.  `abs` inverts it; every command preserves it. -/
def Rep (f : File) (s : MocSet) : Prop :=
  (∀ x ∈ s.entries, EntryOk x) ∧ ∃ tail, f = build s.n128 (s.entries.map itemOf) tail

theorem Rep.items {f : File} {s : MocSet} (h : Rep f s) : MsFile.items f = s.entries.map itemOf := by
  obtain ⟨hok, tail, rfl⟩ := h
  exact items_shape s.n128 _ _ _ tail (itemOf_nz hok)

theorem Rep.abs {f : File} {s : MocSet} (h : Rep f s) : MsFile.abs f = s := by
  obtain ⟨hok, tail, rfl⟩ := h
  exact abs_shape s.n128 s.entries _ _ tail hok

theorem Rep.make {n : Nat} {l : List MsEntry} {s : MocSet} (hok : ∀ x ∈ l, EntryOk x) (h : msMake n l = some s) :
    ∃ f, fileMake n l = some f ∧ Rep f s := by
  cases (msMake_some h).1
  exact ⟨_, by rw [fileMake, h], hok, [], rfl⟩

/-! ### The commands -/

def dupIn (id : Nat) (items : List Item) : Bool :=
  items.any fun it => decide (id = wId it.1 ∧ wStatus it.1 > 1)

theorem idxFrom_append (s : Nat) (a b : List Item) :
    idxFrom s (a ++ b) = idxFrom s a ++ idxFrom (s + (dataOf a).length) b := by
  induction a generalizing s with
  | nil => simp [idxFrom, dataOf]
  | cons it t ih => simp [idxFrom, dataOf, ih, Nat.add_assoc]

theorem dataOf_append (a b : List Item) : dataOf (a ++ b) = dataOf a ++ dataOf b := by
  induction a with
  | nil => rfl
  | cons it t ih => simp [dataOf, ih]

theorem scan_build (id z : Nat) (it : Item) : ∀ (items : List Item) (s : Nat),
    (∀ x ∈ items, x.1 ≠ 0) →
    scan id it.1 it.2.length (items.map (·.1) ++ zeros z) (s :: (idxFrom s items ++ zeros z))
      = if dupIn id items = true ∨ z = 0 then none
        else some ((items ++ [it]).map (·.1) ++ zeros (z - 1),
                   s :: (idxFrom s (items ++ [it]) ++ zeros (z - 1)), s + (dataOf items).length) := by
  intro items
  induction items with
  | nil =>
    intro s _
    cases z with
    | zero => rfl
    | succ z => simp [zeros_succ, idxFrom, scan, wStatus_zero, dataOf, dupIn]
  | cons x t ih =>
    intro s hnz
    have h1 : x.1 ≠ 0 := hnz x List.mem_cons_self
    have hdup : dupIn id (x :: t) = (decide (id = wId x.1 ∧ wStatus x.1 > 1) || dupIn id t) := rfl
    simp only [List.map_cons, List.cons_append, idxFrom, scan, h1, if_false, hdup,
      ih (s + x.2.length) fun y hy => hnz y (List.mem_cons_of_mem _ hy)]
    by_cases hd : id = wId x.1 ∧ wStatus x.1 > 1
    · simp [hd]
    · simp only [hd, if_false, decide_false, Bool.false_or, dataOf, List.length_append, Nat.add_assoc]
      by_cases hr : dupIn id t = true ∨ z = 0
      · simp only [if_pos hr]
      · simp only [if_neg hr]

theorem writeAt_end (a tail bytes : List Nat) :
    writeAt (a ++ tail) a.length bytes = a ++ bytes ++ tail.drop bytes.length := by
  unfold writeAt
  rw [List.take_left, List.drop_append, List.drop_of_length_le (by omega : a.length ≤ a.length + bytes.length)]
  simp

theorem dupIn_canon (id : Nat) (l : List MsEntry) (hok : ∀ x ∈ l, EntryOk x) :
    dupIn id (l.map itemOf) = l.any (fun x => x.id == id && decide (x.status > 1)) := by
  rw [Bool.eq_iff_iff, dupIn, List.any_map, List.any_eq_true, List.any_eq_true]
  refine exists_congr fun x => and_congr_right fun hx => ?_
  obtain ⟨u1, _, u3⟩ := fields_itemOf (hok x hx)
  simp only [Function.comp, u1, u3, Bool.and_eq_true, decide_eq_true_eq, beq_iff_eq]
  exact and_congr_left' eq_comm

theorem cap_eq (s : MocSet) : capOf s.n128 = s.cap := by
  simp [capOf, MocSet.cap, Nat.shiftLeft_eq]

theorem scan_canon (s : MocSet) (tail : List Nat) (e : MsEntry) (hok : ∀ x ∈ s.entries, EntryOk x) :
    scan e.id (itemOf e).1 (itemOf e).2.length (build s.n128 (s.entries.map itemOf) tail).mwords
        (build s.n128 (s.entries.map itemOf) tail).index
      = if (msAppend s e).2 = true then
          some ((build s.n128 ((s.entries ++ [e]).map itemOf) []).mwords,
                (build s.n128 ((s.entries ++ [e]).map itemOf) []).index,
                hdrBytes s.n128 + (dataOf (s.entries.map itemOf)).length)
        else none := by
  -- the two refusals of the scan are the two refusals of the abstract command
  have hv : (msAppend s e).2 = true ↔
      ¬ (dupIn e.id (s.entries.map itemOf) = true ∨ capOf s.n128 - s.entries.length = 0) := by
    rw [msAppend_snd, dupIn_canon e.id s.entries hok, ← cap_eq s, Bool.and_eq_true, Bool.not_eq_true',
      decide_eq_true_eq, not_or, Bool.not_eq_true, Nat.sub_eq_zero_iff_le, Nat.not_le]
  simp only [build, List.length_map]
  rw [scan_build _ _ (itemOf e) _ _ (itemOf_nz hok)]
  by_cases h : (msAppend s e).2 = true
  · rw [if_pos h, if_neg (hv.1 h), List.map_append (f := itemOf), List.length_append, Nat.sub_sub]; rfl
  · rw [if_neg h, if_pos (Decidable.not_not.1 (mt hv.2 h))]

theorem Rep.append {f : File} {s : MocSet} (h : Rep f s) {e : MsEntry} (he : EntryOk e) :
    Rep (fileAppend f e).1 (msAppend s e).1 ∧ (fileAppend f e).2 = (msAppend s e).2 := by
  obtain ⟨hok, tail, rfl⟩ := h
  have hs := scan_canon s tail e hok
  unfold fileAppend
  simp only [itemOf] at hs
  rw [msAppend_fst]
  by_cases hv : (msAppend s e).2 = true
  · rw [if_pos hv] at hs ⊢
    simp only [hs]
    -- the new bytes overwrite what an interrupted append may have left after the data
    refine ⟨⟨List.forall_mem_append.2 ⟨hok, List.forall_mem_singleton.2 he⟩, tail.drop (entryBytes e).length, ?_⟩,
      hv.symm⟩
    simp only [build, Nat.add_sub_cancel_left, writeAt_end, List.map_append, dataOf_append, List.map_cons,
      List.map_nil, dataOf, List.append_nil, itemOf, List.append_assoc]
  · rw [if_neg hv] at hs ⊢
    simp only [hs]
    exact ⟨⟨hok, tail, rfl⟩, (Bool.eq_false_iff.2 hv).symm⟩

theorem fileAppendPrefix_done (f : File) (e : MsEntry) {k : Nat} (hk : k ≥ 3) :
    fileAppendPrefix f e k = (fileAppend f e).1 := by
  have h1 : k ≥ 1 := Nat.le_trans (by decide) hk
  have h2 : k ≥ 2 := Nat.le_trans (by decide) hk
  unfold fileAppendPrefix fileAppend
  simp only [h1, h2, hk, if_true]
  split <;> rfl

theorem fileAppendPrefix_zero (f : File) (e : MsEntry) : fileAppendPrefix f e 0 = f := by
  unfold fileAppendPrefix
  simp only [ge_iff_le, Nat.reduceLeDiff, ↓reduceIte]
  split <;> rfl

theorem fileAppendPrefix_none {f : File} {e : MsEntry}
    (h : scan e.id (pack e.status e.depth e.id) (entryBytes e).length f.mwords f.index = none) (k : Nat) :
    fileAppendPrefix f e k = f := by
  unfold fileAppendPrefix
  simp only [h]

/-- After the data store of an accepted `append` (`k = 1`): again a canonical file of `s`, with other leftover bytes;
    after the index store (`k = 2`): the new end offset lies behind the index words of the listed MOCs, the metadata
    array is untouched. -/
theorem fileAppendPrefix_canon (s : MocSet) (tail : List Nat) (e : MsEntry) (hok : ∀ x ∈ s.entries, EntryOk x)
    (hv : (msAppend s e).2 = true) :
    fileAppendPrefix (build s.n128 (s.entries.map itemOf) tail) e 1
      = build s.n128 (s.entries.map itemOf) (entryBytes e ++ tail.drop (entryBytes e).length) ∧
    fileAppendPrefix (build s.n128 (s.entries.map itemOf) tail) e 2
      = ⟨s.n128, (s.entries.map itemOf).map (·.1) ++ zeros (capOf s.n128 - s.entries.length),
          hdrBytes s.n128 :: (idxFrom (hdrBytes s.n128) (s.entries.map itemOf) ++
            (hdrBytes s.n128 + (dataOf (s.entries.map itemOf)).length + (entryBytes e).length)
              :: zeros (capOf s.n128 - (s.entries.length + 1))),
          dataOf (s.entries.map itemOf) ++ (entryBytes e ++ tail.drop (entryBytes e).length)⟩ := by
  have hs := scan_canon s tail e hok
  rw [if_pos hv] at hs
  unfold fileAppendPrefix
  simp only [itemOf] at hs
  simp only [hs, ge_iff_le, Nat.reduceLeDiff, ↓reduceIte]
  simp only [build, Nat.add_sub_cancel_left, writeAt_end, List.map_append, idxFrom_append, List.append_assoc,
    List.length_append, List.length_map]
  -- `k = 1` is closed; for `k = 2`, `idxFrom _ [itemOf e]` unfolds to the one new end offset
  exact ⟨trivial, rfl⟩

/-- What a reader sees after the first `k` stores of an `append` (C16): the old moc-set as long as the metadata word
    is not stored, the new one from then on. -/
theorem Rep.appendPrefix {f : File} {s : MocSet} (h : Rep f s) {e : MsEntry} (he : EntryOk e) (k : Nat) :
    MsFile.abs (fileAppendPrefix f e k) = if k ≥ 3 then (msAppend s e).1 else s := by
  have ⟨hok, tail, hf⟩ := h
  subst hf
  by_cases hv : (msAppend s e).2 = true
  · obtain ⟨h1, h2⟩ := fileAppendPrefix_canon s tail e hok hv
    -- the reader stops at the first void word: bytes and index words beyond the listed MOCs are not looked at
    match k with
    | 0 => rw [fileAppendPrefix_zero]; exact h.abs
    | 1 => rw [h1]; exact Rep.abs ⟨hok, _, rfl⟩
    | 2 => rw [h2]; exact abs_shape s.n128 s.entries _ _ _ hok
    | k + 3 =>
      rw [if_pos (Nat.le_add_left 3 k), fileAppendPrefix_done _ _ (Nat.le_add_left 3 k)]
      exact (h.append he).1.abs
  · -- refused: nothing is stored
    have hs := scan_canon s tail e hok
    rw [if_neg hv] at hs
    rw [fileAppendPrefix_none hs, msAppend_fst, if_neg hv, ite_self]
    exact h.abs

/-- Pairwise form of "at most one live entry per identifier". -/
def NoDupL (l : List MsEntry) : Prop := l.Pairwise fun x y => x.status > 1 → y.status > 1 → y.id ≠ x.id

theorem chgScan_zeros (st : Nat) (ids : List Nat) (z : Nat) : chgScan st ids (zeros z) = zeros z := by
  cases z with
  | zero => simp [zeros, chgScan]
  | succ z => simp [zeros_succ, chgScan, wStatus_zero]

theorem itemOf_chgEntry_fst (st : Nat) (ids : List Nat) (x : MsEntry) :
    (itemOf (chgEntry st ids x)).1 =
      if x.status > 1 ∧ ids.contains x.id = true then pack st x.depth x.id else (itemOf x).1 := by
  fun_cases chgEntry st ids x with
  | case1 hc => rw [if_pos (by simpa using hc)]; rfl
  | case2 hc => rw [if_neg (by simpa using hc)]

/-- The walk of `chg_multi_status`, which takes an identifier off the map once met.  `l` is the part of the list
    still ahead of the walk and `ids'` the map as shrunk so far; the third hypothesis is the loop invariant: for the
    live entries ahead, being in the shrunk map is being in the original `ids`. -/
theorem chgScan_canon (st : Nat) (ids : List Nat) (z : Nat) : ∀ (l : List MsEntry) (ids' : List Nat),
    (∀ x ∈ l, EntryOk x) → NoDupL l → (∀ y ∈ l, y.status > 1 → (ids'.contains y.id = ids.contains y.id)) →
    chgScan st ids' ((l.map itemOf).map (·.1) ++ zeros z)
      = ((l.map (chgEntry st ids)).map itemOf).map (·.1) ++ zeros z := by
  intro l
  induction l with
  | nil => intro ids' _ _ _; exact chgScan_zeros st ids' z
  | cons x t ih =>
    intro ids' hok hnd hids
    have hx := hok x List.mem_cons_self
    obtain ⟨ust, udp, uid⟩ := fields_itemOf hx
    obtain ⟨hnx, hnt⟩ := List.pairwise_cons.1 hnd
    have hs0 : ¬ x.status = 0 := Nat.ne_of_gt hx.1
    have iht := fun ids'' => ih ids'' (fun y hy => hok y (List.mem_cons_of_mem _ hy)) hnt
    simp only [List.map_cons, List.cons_append, chgScan, itemOf_chgEntry_fst, uid, ust, udp, hs0, if_false]
    by_cases hl : x.status > 1 ∧ ids.contains x.id = true
    · -- the identifier leaves the map: no later live entry carries it
      have hl' : x.status > 1 ∧ ids'.contains x.id = true := ⟨hl.1, (hids x List.mem_cons_self hl.1).trans hl.2⟩
      rw [if_pos hl, if_pos hl', iht (ids'.erase x.id) fun y hy hyl => by
        rw [← hids y (List.mem_cons_of_mem _ hy) hyl]
        simp only [List.contains_eq_mem, List.mem_erase_of_ne (hnx y hy hl.1 hyl)]]
    · have hl' : ¬ (x.status > 1 ∧ ids'.contains x.id = true) := fun h =>
        hl ⟨h.1, (hids x List.mem_cons_self h.1).symm.trans h.2⟩
      rw [if_neg hl, if_neg hl', iht ids' fun y hy => hids y (List.mem_cons_of_mem _ hy)]

theorem entryBytes_chgEntry (st : Nat) (ids : List Nat) (x : MsEntry) :
    entryBytes (chgEntry st ids x) = entryBytes x := by
  fun_cases chgEntry st ids x <;> rfl

theorem layout_map_congr (f : MsEntry → MsEntry) (hf : ∀ x, entryBytes (f x) = entryBytes x) (l : List MsEntry) (s : Nat) :
    idxFrom s ((l.map f).map itemOf) = idxFrom s (l.map itemOf) ∧
    dataOf ((l.map f).map itemOf) = dataOf (l.map itemOf) := by
  induction l generalizing s with
  | nil => exact ⟨rfl, rfl⟩
  | cons x t ih =>
    have : (itemOf (f x)).2 = (itemOf x).2 := hf x
    simp only [List.map_cons, idxFrom, dataOf, this, fun s => (ih s).1, (ih s).2, and_self]

theorem Rep.chg {f : File} {s : MocSet} (h : Rep f s) (hnd : NoDupL s.entries) {st : Nat} (hst : 1 ≤ st ∧ st < 4)
    (ids : List Nat) : Rep (fileChg f st ids).1 (msChgStatus s st ids).1 := by
  obtain ⟨hok, tail, rfl⟩ := h
  refine ⟨fun x hx => ?_, tail, ?_⟩
  · obtain ⟨y, hy, rfl⟩ := List.mem_map.1 hx
    exact (hok y hy).chgEntry hst ids
  · unfold fileChg build msChgStatus
    simp only [List.length_map]
    obtain ⟨hi, hd⟩ := layout_map_congr _ (entryBytes_chgEntry st ids) s.entries (hdrBytes s.n128)
    rw [chgScan_canon st ids _ s.entries ids.eraseDups hok hnd (fun y _ _ => by simp [List.mem_eraseDups]), hi, hd]

theorem Rep.purge {f : File} {s : MocSet} (h : Rep f s) (k : Option Nat) : Rep (filePurge f k).1 (msPurge s k).1 := by
  have hok := h.1
  refine ⟨fun x hx => hok x (List.mem_filter.1 hx).1, [], ?_⟩
  rw [filePurge_eq, h.items, List.filter_map, List.map_map,
    List.filter_congr fun x hx => show (_ ∘ itemOf) x = decide (x.status > 1) by
      simp only [Function.comp, (fields_itemOf (hok x hx)).1],
    List.map_congr_left fun x hx => show (repack ∘ itemOf) x = itemOf x from
      repack_itemOf x (hok x (List.mem_filter.1 hx).1)]
  obtain ⟨_, _, rfl⟩ := h
  rfl

theorem rows_list (l : List MsEntry) (hok : ∀ x ∈ l, EntryOk x) (s : Nat) :
    (rowsOf s (l.map itemOf)).map (fun r =>
        (wId r.1, wStatus r.1, wDepth r.1, (r.2.2 - r.2.1) / (elemBytes (wDepth r.1) <<< 1), r.2.2 - r.2.1))
      = l.map fun e => (e.id, e.status, e.depth, e.ranges.length, e.byteSize) := by
  induction l generalizing s with
  | nil => rfl
  | cons x t ih =>
    obtain ⟨u1, u2, u3⟩ := fields_itemOf (hok x List.mem_cons_self)
    have hlen : (itemOf x).2.length = x.ranges.length * 2 * elemBytes x.depth := entryBytes_length x
    have hdiv : x.ranges.length * 2 * elemBytes x.depth / (elemBytes x.depth <<< 1) = x.ranges.length := by
      rw [Nat.shiftLeft_eq, Nat.pow_one, Nat.mul_assoc, Nat.mul_comm 2]
      exact Nat.mul_div_cancel _ (Nat.mul_pos (elemBytes_pos x.depth) (by decide))
    simp only [List.map_cons, rowsOf, ih (fun y hy => hok y (List.mem_cons_of_mem _ hy)), u1, u2, u3,
      Nat.add_sub_cancel_left, hlen, hdiv]
    rfl

theorem Rep.list {f : File} {s : MocSet} (h : Rep f s) : fileList f = msList s := by
  obtain ⟨hok, tail, rfl⟩ := h
  unfold fileList msList
  rw [build, rows_shape _ _ _ _ tail (itemOf_nz hok)]
  exact rows_list s.entries hok _

/-! ### An interrupted `chgstatus` (C16) -/

def OldOrNew : List Nat → List Nat → List Nat → Prop
  | [], [], [] => True
  | r :: rs, o :: os, n :: ns => (r = o ∨ r = n) ∧ OldOrNew rs os ns
  | _, _, _ => False

theorem chgScan_length (st : Nat) (ws ids : List Nat) : (chgScan st ids ws).length = ws.length := by
  fun_induction chgScan st ids ws with
  | case1 => rfl
  | case2 => rfl
  | case3 ids m ms h0 hl ih => rw [List.length_cons, ih, List.length_cons]
  | case4 ids m ms h0 hl ih => rw [List.length_cons, ih, List.length_cons]

theorem oldOrNew_old : ∀ (l n : List Nat), n.length = l.length → OldOrNew l l n
  | [], [], _ => trivial
  | _ :: t, _ :: u, h => ⟨.inl rfl, oldOrNew_old t u (Nat.succ.inj h)⟩
  | [], _ :: _, h => nomatch h
  | _ :: _, [], h => nomatch h

theorem chgScanK_oldOrNew (st : Nat) (ws : List Nat) (k : Nat) (ids : List Nat) :
    OldOrNew (chgScanK st k ids ws) ws (chgScan st ids ws) := by
  -- clause by clause: a void word ends both walks; a store not reached (`k = 0`) leaves the rest as it was
  fun_induction chgScanK st k ids ws with
  | case1 => trivial
  | case2 k ids m ms h0 => rw [chgScan, if_pos h0]; exact oldOrNew_old (m :: ms) (m :: ms) rfl
  | case3 k ids m ms h0 hl hs ih => rw [chgScan, if_neg h0, if_pos hl]; exact ⟨.inl rfl, ih⟩
  | case4 ids m ms h0 hl hs =>
    rw [chgScan, if_neg h0, if_pos hl]; exact ⟨.inl rfl, oldOrNew_old ms _ (chgScan_length st ms _)⟩
  | case5 ids m ms h0 hl hs k ih => rw [chgScan, if_neg h0, if_pos hl]; exact ⟨.inr rfl, ih⟩
  | case6 k ids m ms h0 hl ih => rw [chgScan, if_neg h0, if_neg hl]; exact ⟨.inl rfl, ih⟩

end Moc.MsFile
