/-
  C09 — correctness of the transliterated `Ranges2D::make_consistent` (`Model/Consistent2D.lean`).

  After the bounds `pre` the open entries are those whose start bound is in `pre` and whose end bound is not
  (`SInv.opChar`); as the bounds are sorted, over the stretch up to the next bound these are the entries whose
  time range contains the stretch (`open_char`), so the segment pushed there covers what the entries cover
  (`Merge2D.Covers`, shared with `Ranges2D::merge`).  `compress` is the final pass of `merge` on segments that
  are all non-empty.
-/
import MocVerif.Model.Consistent2D
import MocVerif.Lemmas.FlatST
import MocVerif.Lemmas.ST
import MocVerif.Lemmas.InsertSort

namespace Moc.Consistent2D
open Moc
open Moc.Merge2D (memFlat SegFrom lastEndF Covers VF postPass postPassFrom)

theorem le_x_of_le {a b : Bound} (h : a.le b = true) : a.x ≤ b.x := by
  unfold Bound.le at h
  simp only [Bool.or_eq_true, Bool.and_eq_true, decide_eq_true_eq] at h
  exact h.elim Nat.le_of_lt fun h => Nat.le_of_eq h.1

theorem ge_x_of_not_le {a b : Bound} (h : ¬ a.le b = true) : b.x ≤ a.x :=
  Nat.le_of_not_lt fun hlt => h (by unfold Bound.le; rw [decide_eq_true hlt]; rfl)

theorem insertB_isInsert : IsInsert (fun b c : Bound => b.le c = true) insertB := ⟨fun _ => rfl, fun _ _ _ => rfl⟩

theorem sortB_isSort : IsSort insertB sortB := ⟨rfl, fun _ _ => rfl⟩

theorem mem_sortB (x : Bound) (l : List Bound) : x ∈ sortB l ↔ x ∈ l :=
  (sortB_isSort.perm insertB_isInsert l).mem_iff

theorem sortB_sorted (l : List Bound) : (sortB l).Pairwise (fun a c => a.x ≤ c.x) :=
  sortB_isSort.pairwise insertB_isInsert (fun _ _ => le_x_of_le) (fun _ _ => ge_x_of_not_le) (fun _ _ _ => Nat.le_trans) l

theorem sorted_split {pre post : List Bound} {b : Bound} (hs : (pre ++ b :: post).Pairwise (fun a c => a.x ≤ c.x)) :
    (∀ a ∈ pre, a.x ≤ b.x) ∧ ∀ c ∈ pre ++ b :: post, c ∉ pre → b.x ≤ c.x := by
  rw [List.pairwise_append, List.pairwise_cons] at hs
  refine ⟨fun a ha => hs.2.2 a ha b List.mem_cons_self, fun c hc hn => ?_⟩
  rcases List.mem_append.1 hc with hc | hc
  · exact absurd hc hn
  · exact (List.mem_cons.1 hc).elim (fun e => e ▸ Nat.le_refl _) (hs.2.1.1 c)

theorem mem_boundsFrom (b : Bound) (l : List Rng) (k : Nat) : b ∈ boundsFrom k l ↔
    ∃ j, j < l.length ∧ (b = ⟨(l.getD j (0, 0)).1, j + k, true⟩ ∨ b = ⟨(l.getD j (0, 0)).2, j + k, false⟩) := by
  fun_induction boundsFrom k l with
  | case1 => exact iff_of_false (nomatch ·) fun ⟨_, hj, _⟩ => nomatch hj
  | case2 k r t ih =>
    simp only [List.mem_cons, ih, List.length_cons, Nat.exists_lt_succ_left, List.getD_cons_zero,
      List.getD_cons_succ, Nat.zero_add, Nat.add_assoc, Nat.add_comm 1 k, or_assoc]

theorem unionAll_spec (ys : List Space) (hy : ∀ i, Canon (ys.getD i [])) (op : List Nat) :
    Canon (unionAll ys op) ∧ ∀ s, mem s (unionAll ys op) ↔ ∃ i ∈ op, mem s (ys.getD i []) := by
  have := foldl_union_spec (fun i => ys.getD i []) op [] trivial (fun i _ => hy i)
  exact ⟨this.1, fun s => (this.2 s).trans (or_iff_right id)⟩

theorem unionAll_ne_nil {ys : List Space} (hy : ∀ i, Canon (ys.getD i [])) {op : List Nat} {j : Nat} (hj : j ∈ op)
    (hne : ys.getD j [] ≠ []) : unionAll ys op ≠ [] := by
  obtain ⟨s, hs⟩ := canon_witness (hy j) hne
  intro hnil
  have := ((unionAll_spec ys hy op).2 s).2 ⟨j, hj, hs⟩
  rwa [hnil] at this

theorem step_out (ys : List Space) (st : St) (b : Bound) : (Consistent2D.step ys st b).out =
    if st.prev < b.x ∧ st.op ≠ [] then st.out ++ [((st.prev, b.x), unionAll ys st.op)] else st.out := by
  show (if (decide (st.prev < b.x) && !st.op.isEmpty) = true then _ else _) = _
  simp only [Bool.and_eq_true, decide_eq_true_eq, Bool.not_eq_true', List.isEmpty_eq_false_iff]

section sweep
variable (xs : List Rng) (ys : List Space)

def startB (i : Nat) : Bound := ⟨(xs.getD i (0, 0)).1, i, true⟩
def endB (i : Nat) : Bound := ⟨(xs.getD i (0, 0)).2, i, false⟩

/-- What is known of the sorted list of bounds `L` and of the entries. -/
structure G (L : List Bound) : Prop where
  sorted : L.Pairwise (fun a c => a.x ≤ c.x)
  sub : ∀ b ∈ L, ∃ i, i < xs.length ∧ (b = startB xs i ∨ b = endB xs i)
  sup : ∀ i, i < xs.length → startB xs i ∈ L ∧ endB xs i ∈ L
  ne : ∀ i, i < xs.length → (xs.getD i (0, 0)).1 < (xs.getD i (0, 0)).2
  cy : ∀ i, Canon (ys.getD i [])
  ney : ∀ i, i < xs.length → ys.getD i [] ≠ []

/-- Invariant of the sweep after the bounds `pre`. -/
structure SInv (pre : List Bound) (st : St) : Prop where
  prevIn : ∃ a ∈ pre, a.x = st.prev
  preLe : ∀ b ∈ pre, b.x ≤ st.prev
  opChar : ∀ i, i ∈ st.op ↔ (i < xs.length ∧ startB xs i ∈ pre ∧ endB xs i ∉ pre)
  seg : SegFrom 0 st.out
  endLe : lastEndF 0 st.out ≤ st.prev
  strict : ∀ e ∈ st.out, e.1.1 < e.1.2 ∧ e.2 ≠ [] ∧ Canon e.2
  sem : ∀ t s, t < st.prev → (memFlat t s st.out ↔
    ∃ i, i < xs.length ∧ (xs.getD i (0, 0)).1 ≤ t ∧ t < (xs.getD i (0, 0)).2 ∧ mem s (ys.getD i []))

variable {xs ys} {pre post : List Bound} {b : Bound} {st : St}

@[simp] theorem startB_inj {i j : Nat} : startB xs i = startB xs j ↔ i = j :=
  ⟨fun h => (Bound.mk.inj h).2.1, fun h => h ▸ rfl⟩
@[simp] theorem endB_inj {i j : Nat} : endB xs i = endB xs j ↔ i = j :=
  ⟨fun h => (Bound.mk.inj h).2.1, fun h => h ▸ rfl⟩
@[simp] theorem startB_ne_endB {i j : Nat} : startB xs i ≠ endB xs j := fun h => nomatch (Bound.mk.inj h).2.2
@[simp] theorem endB_ne_startB {i j : Nat} : endB xs i ≠ startB xs j := fun h => nomatch (Bound.mk.inj h).2.2

theorem open_char (g : G xs ys (pre ++ b :: post)) (h : SInv xs ys pre st) {t : Nat} (h1 : st.prev ≤ t) (h2 : t < b.x)
    (i : Nat) : i ∈ st.op ↔ (i < xs.length ∧ (xs.getD i (0, 0)).1 ≤ t ∧ t < (xs.getD i (0, 0)).2) := by
  have hpost := (sorted_split g.sorted).2
  rw [h.opChar i]
  refine and_congr_right fun hi => ⟨fun ⟨hsb, heb⟩ => ⟨Nat.le_trans (h.preLe _ hsb) h1,
    Nat.lt_of_lt_of_le h2 (hpost _ (g.sup i hi).2 heb)⟩, fun ⟨a1, a2⟩ => ⟨?_, fun hin => ?_⟩⟩
  · exact Decidable.byContradiction fun hn =>
      absurd (Nat.lt_of_le_of_lt a1 h2) (Nat.not_lt.2 (hpost _ (g.sup i hi).1 hn))
  · exact absurd (Nat.le_trans (h.preLe _ hin) h1) (Nat.not_le.2 a2)

theorem SInv.covers (h : SInv xs ys pre st) :
    Covers (fun e => e.1.1 < e.1.2 ∧ e.2 ≠ [] ∧ Canon e.2)
      (fun t s => ∃ i, i < xs.length ∧ (xs.getD i (0, 0)).1 ≤ t ∧ t < (xs.getD i (0, 0)).2 ∧ mem s (ys.getD i []))
      st.prev st.out :=
  ⟨h.seg, h.endLe, h.strict, h.sem⟩

theorem SInv.covers_step (g : G xs ys (pre ++ b :: post)) (h : SInv xs ys pre st) :
    Covers (fun e => e.1.1 < e.1.2 ∧ e.2 ≠ [] ∧ Canon e.2)
      (fun t s => ∃ i, i < xs.length ∧ (xs.getD i (0, 0)).1 ≤ t ∧ t < (xs.getD i (0, 0)).2 ∧ mem s (ys.getD i []))
      b.x (Consistent2D.step ys st b).out := by
  have hprev : st.prev ≤ b.x := by
    obtain ⟨a, ha, hax⟩ := h.prevIn
    exact hax ▸ (sorted_split g.sorted).1 a ha
  have hcov := unionAll_spec ys g.cy st.op
  rw [step_out]
  split
  · next hemit =>
    obtain ⟨j, hj⟩ := List.exists_mem_of_ne_nil _ hemit.2
    refine h.covers.push hprev ⟨hemit.1, unionAll_ne_nil g.cy hj (g.ney j ((h.opChar j).1 hj).1), hcov.1⟩
      (fun t s h1 h2 => ?_)
    rw [hcov.2 s]
    exact exists_congr fun i => by rw [open_char g h h1 h2 i, and_assoc, and_assoc]
  · next hemit =>
    exact h.covers.idle hprev fun t s h1 h2 ⟨i, k1, k2, k3, _⟩ =>
      hemit ⟨Nat.lt_of_le_of_lt h1 h2, List.ne_nil_of_mem ((open_char g h h1 h2 i).2 ⟨k1, k2, k3⟩)⟩

theorem SInv.step (g : G xs ys (pre ++ b :: post)) (h : SInv xs ys pre st) :
    SInv xs ys (pre ++ [b]) (Consistent2D.step ys st b) := by
  have hpre := (sorted_split g.sorted).1
  obtain ⟨i0, hi0, hb⟩ := g.sub b (List.mem_append_right _ List.mem_cons_self)
  have hout := h.covers_step g
  refine ⟨⟨b, List.mem_append_right _ List.mem_cons_self, rfl⟩,
    List.forall_mem_append.2 ⟨hpre, List.forall_mem_singleton.2 (Nat.le_refl _)⟩, fun i => ?_,
    hout.seg, hout.endLe, hout.all, hout.sem⟩
  simp only [List.mem_append, List.mem_singleton]
  rcases hb with rfl | rfl
  · have hE : endB xs i0 ∉ pre := fun hin => Nat.lt_irrefl _ (Nat.lt_of_lt_of_le (g.ne i0 hi0) (hpre _ hin))
    -- the model's `if st.op.contains i0 then st.op else i0 :: st.op` is `List.insert` unfolded
    show i ∈ st.op.insert i0 ↔ _
    rw [List.mem_insert_iff, h.opChar i]
    simp only [startB_inj, endB_ne_startB, or_false]
    by_cases hii : i = i0
    · subst hii; exact ⟨fun _ => ⟨hi0, Or.inr rfl, hE⟩, fun _ => Or.inl rfl⟩
    · simp only [hii, false_or, or_false]
  · show i ∈ st.op.filter (· != i0) ↔ _
    rw [List.mem_filter, h.opChar i]
    simp only [bne_iff_ne, ne_eq, endB_inj, startB_ne_endB, or_false, not_or, and_assoc]

theorem SInv.foldl (post : List Bound) : ∀ (pre : List Bound) (st : St), G xs ys (pre ++ post) → SInv xs ys pre st →
    SInv xs ys (pre ++ post) (post.foldl (Consistent2D.step ys) st) := by
  induction post with
  | nil => intro pre st _ h; rwa [List.append_nil]
  | cons b r ih =>
    intro pre st g h
    have := ih (pre ++ [b]) _ (by rwa [List.append_assoc]) (h.step g)
    rwa [List.append_assoc] at this

theorem SInv.init {first : Bound} {rest : List Bound} (g : G xs ys (first :: rest)) :
    SInv xs ys [first] { prev := first.x, op := [first.idx] } := by
  obtain ⟨j, hj, hb⟩ := g.sub first List.mem_cons_self
  have hmin := fun c hc => (sorted_split (pre := []) g.sorted).2 c hc List.not_mem_nil
  -- the first bound is a start: its end bound lies further
  have hstart : first = startB xs j :=
    hb.elim id fun hb => by subst hb; exact absurd (hmin _ (g.sup j hj).1) (Nat.not_le.2 (g.ne j hj))
  subst hstart
  refine ⟨⟨_, List.mem_cons_self, rfl⟩, List.forall_mem_singleton.2 (Nat.le_refl _), fun i => ?_, trivial,
    Nat.zero_le _, fun e he => (nomatch he), fun t s ht => ?_⟩
  · simp only [List.mem_singleton, startB_inj, endB_ne_startB, not_false_eq_true, and_true]
    exact ⟨fun e => ⟨e ▸ hj, e⟩, fun e => e.2⟩
  · rw [Merge2D.memFlat_nil]
    exact iff_of_false id fun ⟨i, hi, a1, _, _⟩ =>
      absurd (Nat.le_trans (hmin _ (g.sup i hi).1) a1) (Nat.not_le.2 ht)

end sweep

theorem compressFrom_eq (rest : FlatST) : ∀ (c : Rng × Space), (∀ e ∈ rest, e.1.1 < e.1.2) →
    compressFrom c rest = postPassFrom c rest := by
  induction rest with
  | nil => exact fun _ _ => rfl
  | cons x r ih =>
    intro c h
    have ⟨hx, hr⟩ := List.forall_mem_cons.1 h
    rw [compressFrom, postPassFrom, if_pos hx, ih _ hr, ih _ hr]

theorem compress_eq (f : FlatST) (h : ∀ e ∈ f, e.1.1 < e.1.2) : compress f = postPass f := by
  cases f with
  | nil => rfl
  | cons x r =>
    have ⟨hx, hr⟩ := List.forall_mem_cons.1 h
    rw [compress, postPass, if_pos hx, compressFrom_eq r _ hr]

theorem exists_index (entries : FlatST) (P : Rng → Space → Prop) :
    (∃ i, i < (entries.map (·.1)).length ∧ P ((entries.map (·.1)).getD i (0, 0)) ((entries.map (·.2)).getD i [])) ↔
    ∃ e ∈ entries, P e.1 e.2 := by
  induction entries with
  | nil => exact iff_of_false (fun ⟨_, h, _⟩ => nomatch h) fun ⟨_, h, _⟩ => nomatch h
  | cons e r ih =>
    simp only [List.map_cons, List.length_cons, Nat.exists_lt_succ_left, List.getD_cons_zero, List.getD_cons_succ, ih,
      List.mem_cons, exists_eq_or_imp]

theorem forall_index (entries : FlatST) (P : Rng → Space → Prop) :
    (∀ i, i < (entries.map (·.1)).length → P ((entries.map (·.1)).getD i (0, 0)) ((entries.map (·.2)).getD i [])) ↔
    ∀ e ∈ entries, P e.1 e.2 := by
  induction entries with
  | nil => exact iff_of_true (fun _ h => nomatch h) fun _ h => nomatch h
  | cons e r ih =>
    simp only [List.map_cons, List.length_cons, Nat.forall_lt_succ_left, List.getD_cons_zero, List.getD_cons_succ, ih,
      List.forall_mem_cons]

theorem G.ofEntries (entries : FlatST) (he : ∀ e ∈ entries, e.1.1 < e.1.2 ∧ Canon e.2 ∧ e.2 ≠ []) :
    G (entries.map (·.1)) (entries.map (·.2)) (sortB (boundsFrom 0 (entries.map (·.1)))) := by
  have hent := (forall_index entries fun r y => r.1 < r.2 ∧ Canon y ∧ y ≠ []).2 he
  refine ⟨sortB_sorted _, fun b hb => (mem_boundsFrom b _ 0).1 ((mem_sortB b _).1 hb), fun i hi =>
    ⟨(mem_sortB _ _).2 ((mem_boundsFrom _ _ 0).2 ⟨i, hi, Or.inl rfl⟩),
      (mem_sortB _ _).2 ((mem_boundsFrom _ _ 0).2 ⟨i, hi, Or.inr rfl⟩)⟩,
    fun i hi => (hent i hi).1, fun i => ?_, fun i hi => (hent i hi).2.2⟩
  by_cases hi : i < (entries.map (·.1)).length
  · exact (hent i hi).2.1
  · -- beyond the entries `getD` gives the empty coverage
    rw [List.getD_eq_getElem?_getD, List.getElem?_eq_none (by simpa only [List.length_map] using Nat.le_of_not_lt hi)]
    trivial

/-- `Ranges2D::make_consistent` (the range-2D construction path): for every list of entries — any order, overlapping
    or touching time ranges, duplicates — with non-empty time ranges and non-empty canonical coverages, the result is
    a valid flat coverage and covers exactly the union of the products (time range) × (coverage) of the entries (the
    right-hand side is `memFlat t s entries` written out). -/
theorem makeConsistent_spec (entries : FlatST)
    (he : ∀ e ∈ entries, e.1.1 < e.1.2 ∧ Canon e.2 ∧ e.2 ≠ []) :
    VF Canon 0 none (makeConsistent entries) ∧
    ∀ t s, memFlat t s (makeConsistent entries) ↔ ∃ e ∈ entries, e.1.1 ≤ t ∧ t < e.1.2 ∧ mem s e.2 := by
  unfold makeConsistent
  have g := G.ofEntries entries he
  have hidx := fun t s => exists_index entries fun r y => r.1 ≤ t ∧ t < r.2 ∧ mem s y
  cases hL : sortB (boundsFrom 0 (entries.map (·.1))) with
  | nil =>
    refine ⟨trivial, fun t s => iff_of_false (fun ⟨_, h, _⟩ => nomatch h) fun hx => ?_⟩
    obtain ⟨i, hi, _⟩ := (hidx t s).2 hx
    exact nomatch hL ▸ (g.sup i hi).1
  | cons first rest =>
    rw [hL] at g
    have h := SInv.foldl rest [first] _ g (SInv.init g)
    show VF Canon 0 none (compress _) ∧ ∀ t s, memFlat t s (compress _) ↔ _
    rw [compress_eq _ fun e he' => (h.strict e he').1]
    have pp := h.covers.final (P := Canon) (fun _ he' => he'.2) fun t s ht ⟨i, hi, _, a2, _⟩ =>
      absurd (Nat.le_trans (h.preLe _ (g.sup i hi).2) ht) (Nat.not_le.2 a2)
    exact ⟨pp.1, fun t s => (pp.2 t s).trans (hidx t s)⟩

theorem makeConsistent_congr (a b : FlatST)
    (ha : ∀ e ∈ a, e.1.1 < e.1.2 ∧ Canon e.2 ∧ e.2 ≠ []) (hb : ∀ e ∈ b, e.1.1 < e.1.2 ∧ Canon e.2 ∧ e.2 ≠ [])
    (h : ∀ t s, memFlat t s a ↔ memFlat t s b) : makeConsistent a = makeConsistent b := by
  have x := makeConsistent_spec a ha
  have y := makeConsistent_spec b hb
  exact Merge2D.VF.ext _ _ 0 none x.1 y.1 fun t s => (x.2 t s).trans ((h t s).trans (y.2 t s).symm)

/-- The same for the repaired `create_from_time_ranges_spatial_coverage`, on every list of observations, empty time
    ranges and empty coverages included. -/
theorem fromObservations_spec (entries : FlatST) (he : ∀ e ∈ entries, Canon e.2) :
    VF Canon 0 none (fromObservations entries) ∧
    ∀ t s, memFlat t s (fromObservations entries) ↔ memFlat t s entries := by
  unfold fromObservations
  have hmem : ∀ e, e ∈ entries.filter (fun e => decide (e.1.1 < e.1.2) && !e.2.isEmpty) ↔
      e ∈ entries ∧ e.1.1 < e.1.2 ∧ e.2 ≠ [] := fun e => by
    simp only [List.mem_filter, Bool.and_eq_true, decide_eq_true_eq, Bool.not_eq_true', List.isEmpty_eq_false_iff]
  have sp := makeConsistent_spec _ fun e h => ⟨((hmem e).1 h).2.1, he e ((hmem e).1 h).1, ((hmem e).1 h).2.2⟩
  refine ⟨sp.1, fun t s => (sp.2 t s).trans ⟨fun ⟨e, h, r⟩ => ⟨e, ((hmem e).1 h).1, r⟩, fun ⟨e, h, h1, h2, h3⟩ => ?_⟩⟩
  -- an observation that covers `(t, s)` is kept: neither its time range nor its coverage is empty
  exact ⟨e, (hmem e).2 ⟨h, Nat.lt_of_le_of_lt h1 h2, fun h0 => by rw [h0] at h3; exact h3⟩, h1, h2, h3⟩

end Moc.Consistent2D
