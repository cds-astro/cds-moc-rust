/-
  Queries agree with the covered set.

  The three binary-search queries (`contains_val`, `contains_range`, `intersects_range`) only use
  `j` = the number of bounds `≤ a` (`Ok(i) => i + 1`, `Err(i) => i`) on the flattened bounds: `a` is covered
  iff `j` is odd, and bound number `j` is where membership next changes.
-/
import MocVerif.Lemmas.SetOps
import MocVerif.Lemmas.Sweep
import MocVerif.Model.Query

namespace Moc

theorem or_one_of_even (i : Nat) (h : i % 2 = 0) : i ||| 1 = i + 1 := by
  have := (Nat.two_pow_add_eq_or_of_lt (i := 1) (b := 1) (by decide) (i / 2)).symm
  rwa [show 2 ^ 1 * (i / 2) = i from Nat.mul_div_cancel' (Nat.dvd_of_mod_eq_zero h)] at this

@[simp] theorem rank_nil (x : Nat) : rank x [] = 0 := rfl
theorem rank_cons (x a : Nat) (t : List Nat) : rank x (a :: t) = (if a < x then 1 else 0) + rank x t := by
  unfold rank
  by_cases h : a < x <;> simp [h] <;> omega

theorem StrictFrom.rank_eq_zero {lo : Nat} {arr : List Nat} (h : StrictFrom lo arr) {x : Nat} (hx : x ≤ lo) :
    rank x arr = 0 := by
  induction arr generalizing lo with
  | nil => rfl
  | cons c t ih =>
    rw [rank_cons, if_neg (Nat.not_lt.2 (Nat.le_trans hx h.1)), ih h.2 (Nat.le_succ_of_le (Nat.le_trans hx h.1))]

theorem StrictFrom.rank_succ {lo : Nat} {arr : List Nat} (h : StrictFrom lo arr) (a : Nat) :
    rank (a + 1) arr = rank a arr + (if arr.contains a then 1 else 0) := by
  induction arr generalizing lo with
  | nil => rfl
  | cons c t ih =>
    have ih := ih h.2
    rw [rank_cons, rank_cons, List.contains_cons]
    rcases Nat.lt_trichotomy c a with hc | hc | hc
    · rw [if_pos (Nat.lt_succ_of_lt hc), if_pos hc, beq_eq_false_iff_ne.2 (Nat.ne_of_gt hc), Bool.false_or, ih,
        Nat.add_assoc]
    · subst hc
      rw [if_pos (Nat.lt_succ_self c), if_neg (Nat.lt_irrefl c), beq_self_eq_true, Bool.true_or, if_pos rfl,
        h.2.rank_eq_zero (Nat.le_refl _), h.2.rank_eq_zero (Nat.le_succ c)]
    · rw [if_neg (Nat.not_lt.2 hc), if_neg (Nat.not_lt.2 (Nat.le_of_lt hc)), beq_eq_false_iff_ne.2 (Nat.ne_of_lt hc),
        Bool.false_or, ih, Nat.add_assoc]

theorem even_iff_succ_odd (i : Nat) : (i % 2 == 0) = ((i + 1) % 2 == 1) := by
  rw [Nat.add_mod]
  rcases Nat.mod_two_eq_zero_or_one i with h | h <;> rw [h] <;> rfl

section
variable (arr : List Nat) (a b j : Nat) (hj : j = rank a arr + (if arr.contains a then 1 else 0))
include hj

theorem parity_eq : (if arr.contains a then rank a arr % 2 == 0 else rank a arr % 2 == 1) = (j % 2 == 1) := by
  subst hj
  cases arr.contains a
  · rfl
  · exact even_iff_succ_odd _

theorem crCore_eq : crCore arr a b = (j % 2 == 1 && decide (b ≤ arr.getD j 0)) := by
  subst hj; unfold crCore
  cases arr.contains a
  · rfl
  · simp only [if_true]
    rw [← even_iff_succ_odd]
    by_cases h : rank a arr % 2 = 0
    · rw [or_one_of_even _ h]
    · rw [beq_eq_false_iff_ne.2 h, Bool.false_and, Bool.false_and]

theorem irCore_eq : irCore arr a b = (j % 2 == 1 || (decide (j < arr.length) && decide (b > arr.getD j 0))) := by
  subst hj; unfold irCore
  cases arr.contains a
  · rfl
  · simp only [if_true]
    rw [← even_iff_succ_odd]

end

theorem odd_succ (j : Nat) : ((1 + j) % 2 == 1) = !(j % 2 == 1) := by
  rw [Nat.add_mod]
  rcases Nat.mod_two_eq_zero_or_one j with h | h <;> rw [h] <;> rfl

/-- With `j = rank (a + 1) arr` the number of bounds `≤ a`: the state at `a` is `ins` toggled `j` times; it lasts up to
    bound number `j`, toggles there, and is the final state if there is no such bound. -/
theorem memF_rank {lo : Nat} {arr : List Nat} (h : StrictFrom lo arr) (a : Nat) (ins : Bool)
    (j : Nat) (hj : j = rank (a + 1) arr) :
    memF a ins arr = (ins != (j % 2 == 1)) ∧
    (∀ y, a ≤ y → (j < arr.length → y < arr.getD j 0) → memF y ins arr = memF a ins arr) ∧
    (j < arr.length → a < arr.getD j 0 ∧ memF (arr.getD j 0) ins arr = !memF a ins arr) ∧
    (arr.length ≤ j → fin ins arr = memF a ins arr) := by
  subst hj
  induction arr generalizing lo ins with
  | nil => exact ⟨(Bool.bne_false ins).symm, fun _ _ _ => rfl, fun h => absurd h (Nat.lt_irrefl _), fun _ => rfl⟩
  | cons c t ih =>
    by_cases hc : c ≤ a
    · -- `c` is counted and every `y ≥ a` is past it: same question on the tail, from the toggled state
      have e : ∀ y, a ≤ y → memF y ins (c :: t) = memF y (!ins) t := fun y hy =>
        if_neg (Nat.not_lt.2 (Nat.le_trans hc hy))
      obtain ⟨i1, i2, i3, i4⟩ := ih h.2 (!ins)
      rw [rank_cons, if_pos (Nat.lt_succ_of_le hc), odd_succ, Nat.add_comm 1, List.getD_cons_succ, List.length_cons,
        Nat.add_lt_add_iff_right, Nat.add_le_add_iff_right, e a (Nat.le_refl _)]
      refine ⟨by rw [i1, Bool.not_bne, Bool.bne_not], fun y hy hlt => (e y hy).trans (i2 y hy hlt), fun hlt => ?_, i4⟩
      rw [e _ (Nat.le_of_lt (i3 hlt).1)]
      exact i3 hlt
    · -- `c` and the later bounds lie beyond `a`: `j = 0`, the state lasts up to `c` and toggles there
      have hc := Nat.not_le.1 hc
      have hs : StrictFrom c (c :: t) := ⟨Nat.le_refl c, h.2⟩
      have e : memF a ins (c :: t) = ins := if_pos hc
      rw [hs.rank_eq_zero hc, e]
      refine ⟨(Bool.bne_false ins).symm, fun y _ hlt => if_pos (hlt (Nat.succ_pos _)), fun _ => ⟨hc, ?_⟩,
        fun hle => absurd hle (Nat.not_succ_le_zero _)⟩
      exact (if_neg (Nat.lt_irrefl c)).trans (memF_below h.2 (Nat.lt_succ_self c) _)

theorem bounds_le_spec {lo : Nat} {l : List Rng} (hc : CanonFrom lo l) {a b : Nat} (hab : a < b)
    (j : Nat) (hj : j = rank (a + 1) (flatten l)) :
    (j % 2 = 1 ↔ mem a l) ∧
    (j % 2 = 1 ∧ b ≤ (flatten l).getD j 0 ↔ ∀ y, a ≤ y → y < b → mem y l) ∧
    (j % 2 = 1 ∨ j < (flatten l).length ∧ (flatten l).getD j 0 < b ↔ ∃ y, a ≤ y ∧ y < b ∧ mem y l) := by
  obtain ⟨h1, h2, h3, h4⟩ := memF_rank (strictFrom_flatten.2 hc) a false j hj
  simp only [← memF_flatten hc]
  rw [show j % 2 = 1 ↔ memF a false (flatten l) = true by rw [h1, Bool.false_bne, beq_iff_eq]]
  cases hs : memF a false (flatten l) <;> rw [hs] at h2 h3 h4
  · refine ⟨Iff.rfl, iff_of_false (fun h => Bool.false_ne_true h.1)
      (fun h => Bool.false_ne_true (hs.symm.trans (h a (Nat.le_refl _) hab))),
      ⟨fun h => ?_, fun ⟨y, hy1, hy2, hy⟩ => Or.inr (Decidable.by_contra fun hn => ?_)⟩⟩
    · obtain ⟨hl, hlt⟩ := h.resolve_left Bool.false_ne_true
      exact ⟨_, Nat.le_of_lt (h3 hl).1, hlt, (h3 hl).2⟩
    · -- `y` is covered and `a` is not: the state has toggled in between
      exact Bool.false_ne_true ((h2 y hy1 fun hl =>
        Nat.lt_of_lt_of_le hy2 (Nat.le_of_not_lt fun hlt => hn ⟨hl, hlt⟩)).symm.trans hy)
  · -- an odd `j` is not the number of all bounds: after the last one the state is `false`
    obtain ⟨k1, k2⟩ := h3 (Nat.lt_of_not_le fun hle => Bool.false_ne_true ((fin_flatten l).symm.trans (h4 hle)))
    refine ⟨Iff.rfl, ⟨fun ⟨_, hb⟩ y hy1 hy2 => h2 y hy1 fun _ => Nat.lt_of_lt_of_le hy2 hb,
      fun h => ⟨rfl, Nat.le_of_not_lt fun hlt => ?_⟩⟩, iff_of_true (Or.inl rfl) ⟨a, Nat.le_refl _, hab, hs⟩⟩
    -- otherwise bound number `j` is in `[a, b)`, and not covered
    exact Bool.false_ne_true (k2.symm.trans (h _ (Nat.le_of_lt k1) hlt))

theorem mem_bounds (l : List Rng) (lo : Nat) (h : CanonFrom lo l) (x : Nat) (hx : mem x l) :
    firstStart l ≤ x ∧ x < lastEnd l := by
  cases l with
  | nil => exact hx.elim
  | cons r t => exact ⟨h.head_le hx, h.ends_le.lt hx⟩

theorem firstStart_lt_lastEnd {lo : Nat} {l : List Rng} (h : CanonFrom lo l) (hne : l ≠ []) :
    firstStart l < lastEnd l := by
  obtain ⟨y, hy⟩ := canon_witness h hne
  have := mem_bounds l lo h y hy
  exact Nat.lt_of_le_of_lt this.1 this.2

theorem lastEnd_append (l : List Rng) (x : Rng) : lastEnd (l ++ [x]) = x.2 := by
  cases l with
  | nil => rfl
  | cons r t =>
    obtain ⟨c, -, h1, h2⟩ := exists_getLast r (t ++ [x])
    rw [← List.cons_append, List.getLast?_concat] at h1
    cases h1; exact h2.symm

theorem firstStart_append (l : List Rng) (x : Rng) (h : l ≠ []) : firstStart (l ++ [x]) = firstStart l := by
  cases l with
  | nil => exact absurd rfl h
  | cons r t => rfl

theorem lastIndex_cons (r : Rng) (t : List Rng) : lastIndex (r :: t) = some (lastEnd (r :: t)) := by
  obtain ⟨c, -, h1, h2⟩ := exists_getLast r t
  rw [lastIndex, h1]; exact congrArg some h2

theorem exists_mem_succ_eq_lastEnd {lo : Nat} {r : Rng} {t : List Rng} (h : CanonFrom lo (r :: t)) :
    ∃ x, mem x (r :: t) ∧ x + 1 = lastEnd (r :: t) :=
  have ⟨c, hc, _, h2⟩ := exists_getLast r t
  have hne := canon_nonempty h c hc
  ⟨c.2 - 1, mem_pred_end hc hne, (Nat.sub_add_cancel (Nat.zero_lt_of_lt hne)).trans h2⟩

/-- `hq` is the quick rejection that opens the three binary-search queries. -/
theorem not_mem_of_rejected {l : List Rng} (hc : Canon l) {a b : Nat}
    (hq : (l.isEmpty || decide (b ≤ firstStart l) || decide (lastEnd l ≤ a)) = true) {y : Nat}
    (h1 : a ≤ y) (h2 : y < b) : ¬ mem y l := by
  intro hm
  have := mem_bounds l 0 hc y hm
  simp only [Bool.or_eq_true, List.isEmpty_iff, decide_eq_true_eq] at hq
  rcases hq with (rfl | hq) | hq
  · exact hm
  · exact Nat.lt_irrefl y (Nat.lt_of_lt_of_le h2 (Nat.le_trans hq this.1))
  · exact Nat.lt_irrefl y (Nat.lt_of_lt_of_le this.2 (Nat.le_trans hq h1))

theorem if_false_left_eq_true_iff {q : Prop} [Decidable q] {b : Bool} {P : Prop} (hq : q → ¬ P) (hb : b = true ↔ P) :
    (if q then false else b) = true ↔ P := by
  by_cases h : q
  · rw [if_pos h]; exact ⟨nofun, fun k => absurd k (hq h)⟩
  · rw [if_neg h]; exact hb

theorem containsVal_iff (l : List Rng) (hc : Canon l) (x : Nat) : containsVal l x = true ↔ mem x l := by
  unfold containsVal
  refine if_false_left_eq_true_iff
    (fun hq => not_mem_of_rejected hc (b := x + 1) hq (Nat.le_refl _) (Nat.lt_succ_self _)) ?_
  rw [parity_eq _ _ _ ((strictFrom_flatten.2 hc).rank_succ x), beq_iff_eq]
  exact (bounds_le_spec hc (Nat.lt_succ_self x) _ rfl).1

theorem containsRange_iff (l : List Rng) (hc : Canon l) (x : Rng) (hx : x.1 < x.2) :
    containsRange l x = true ↔ ∀ y, x.1 ≤ y → y < x.2 → mem y l := by
  unfold containsRange
  refine if_false_left_eq_true_iff (fun hq h => not_mem_of_rejected hc hq (Nat.le_refl _) hx (h x.1 (Nat.le_refl _) hx)) ?_
  rw [crCore_eq _ _ _ _ ((strictFrom_flatten.2 hc).rank_succ x.1), Bool.and_eq_true, beq_iff_eq, decide_eq_true_eq]
  exact (bounds_le_spec hc hx _ rfl).2.1

theorem intersectsRange_iff (l : List Rng) (hc : Canon l) (x : Rng) (hx : x.1 < x.2) :
    intersectsRange l x = true ↔ ∃ y, x.1 ≤ y ∧ y < x.2 ∧ mem y l := by
  unfold intersectsRange
  refine if_false_left_eq_true_iff (fun hq ⟨y, h1, h2, hm⟩ => not_mem_of_rejected hc hq h1 h2 hm) ?_
  rw [irCore_eq _ _ _ _ ((strictFrom_flatten.2 hc).rank_succ x.1), Bool.or_eq_true, Bool.and_eq_true, beq_iff_eq,
    decide_eq_true_eq, decide_eq_true_eq]
  exact (bounds_le_spec hc hx _ rfl).2.2

theorem containsAll_iff (l rhs : List Rng) (hl : Canon l) (hr : Canon rhs) :
    containsAll l rhs = true ↔ ∀ y, mem y rhs → mem y l := by
  unfold containsAll
  rw [List.all_eq_true]
  refine Iff.trans (forall_congr' fun r => imp_congr_right fun hr' =>
    containsRange_iff l hl r (canon_nonempty hr r hr')) ?_
  simp only [mem_iff_exists _ rhs]
  exact ⟨fun h y ⟨r, hr', h1, h2⟩ => h r hr' y h1 h2, fun h r hr' y h1 h2 => h y ⟨r, hr', h1, h2⟩⟩

theorem intersectsLoop_eq (l r : List Rng) : intersectsLoop l r = !(interLoop l r).isEmpty := by
  fun_induction intersectsLoop l r with
  | case1 r => rw [interLoop]; rfl
  | case2 l lt => rw [interLoop]; rfl
  | case3 l lt r rt h ih => rw [interLoop, if_pos h, ih]
  | case4 l lt r rt h1 h2 ih => rw [interLoop, if_neg h1, if_pos h2, ih]
  | case5 l lt r rt h1 h2 =>
    -- each of the three ways to go on starts by yielding a range
    rw [interLoop, if_neg h1, if_neg h2]
    split
    · rfl
    · split <;> rfl

theorem intersects_eq_viaStart (l r : List Rng) : intersects l r = viaStart intersectsLoop false l r := by
  cases l <;> cases r <;> rfl

theorem skip_intersectsLoop : SkipLoop intersectsLoop false := ⟨intersectsLoop.eq_1, intersectsLoop.eq_2, _, intersectsLoop.eq_3⟩

theorem intersects_iff (l r : List Rng) (hl : Canon l) (hr : Canon r) :
    intersects l r = true ↔ ∃ y, mem y l ∧ mem y r := by
  rw [intersects_eq_viaStart, viaStart_eq skip_intersectsLoop l r hl hr, intersectsLoop_eq]
  have sp := interLoop_spec l r 0 0 hl hr
  cases hi : interLoop l r with
  | nil =>
    rw [hi] at sp
    exact ⟨fun h => (nomatch h), fun ⟨y, hy⟩ => ((sp.2 y).2 hy).elim⟩
  | cons s t =>
    rw [hi] at sp
    exact ⟨fun _ => ⟨s.1, (sp.2 s.1).1 (Or.inl ⟨Nat.le_refl _, sp.1.2.1⟩)⟩, fun _ => rfl⟩

def meetsB (r : List Rng) (c : Rng) : Bool := r.any fun s => decide (s.1 < c.2 ∧ c.1 < s.2)

theorem overlapLoop_spec (l r : List Rng) {a b : Nat} (hl : CanonFrom a l) (hr : CanonFrom b r) :
    overlapLoop l r = l.filter (meetsB r) := by
  fun_induction overlapLoop l r generalizing a b with
  | case1 r => simp
  | case2 l lt => symm; rw [List.filter_eq_nil_iff]; intro c _; simp [meetsB]
  | case3 l lt r rt h ih =>
    -- `l` ends before `r`, the first range of the other side, starts: it meets none
    have : meetsB (r :: rt) l = false := by
      unfold meetsB
      rw [List.any_eq_false]
      intro s hs
      exact fun hd => Nat.not_lt.2 (Nat.le_trans h (hr.from_head.start_ge hs)) (of_decide_eq_true hd).1
    rw [ih hl.2.2 hr, List.filter_cons, this]; rfl
  | case4 l lt r rt h1 h2 ih =>
    -- `r` ends before `l`, the first range left, starts: no range left meets it
    rw [ih hl hr.2.2]
    apply List.filter_congr
    intro c hc
    unfold meetsB
    rw [List.any_cons, decide_eq_false fun k => Nat.not_lt.2 (Nat.le_trans h2 (hl.from_head.start_ge hc)) k.2,
      Bool.false_or]
  | case5 l lt r rt h1 h2 ih =>
    have : meetsB (r :: rt) l = true := by
      unfold meetsB
      rw [List.any_cons, decide_eq_true ⟨Nat.not_le.1 h1, Nat.not_le.1 h2⟩, Bool.true_or]
    rw [ih hl.2.2 hr, List.filter_cons, this]; rfl

theorem overlappedBy_eq_viaStart (l r : List Rng) : overlappedBy l r = viaStart overlapLoop [] l r := by
  cases l <;> cases r <;> rfl

theorem skip_overlapLoop : SkipLoop overlapLoop [] := ⟨overlapLoop.eq_1, overlapLoop.eq_2, _, overlapLoop.eq_3⟩

/-- `overlapped_by_iter`, repaired for empty operands: the statement holds for empty MOCs too. -/
theorem overlappedBy_eq (l r : List Rng) (hl : Canon l) (hr : Canon r) :
    overlappedBy l r = l.filter (meetsB r) := by
  rw [overlappedBy_eq_viaStart, viaStart_eq skip_overlapLoop l r hl hr]
  exact overlapLoop_spec l r hl hr

end Moc
