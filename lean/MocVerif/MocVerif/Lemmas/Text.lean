/-
  Character-level lemmas for the ASCII codec (C07, C11, C12): decimal printing is inverted by the
  lexer's number parser, and the lexer run on the concatenated token texts returns the tokens.
-/
import MocVerif.Model.Codec
import MocVerif.Lemmas.ListFacts

namespace Moc.Codec
open Moc

/-! ### Digits -/

theorem digitOf_spec : ∀ k, k < 10 →
    isDigit (digitOf k) = true ∧ (digitOf k).toNat - '0'.toNat = k ∧ isSpace (digitOf k) = false := by
  decide

def IsDig (c : Char) : Prop := ∃ k, k < 10 ∧ c = digitOf k

theorem IsDig.isDigit {c : Char} (h : IsDig c) : isDigit c = true := by
  obtain ⟨k, hk, rfl⟩ := h; exact (digitOf_spec k hk).1

theorem IsDig.notSpace {c : Char} (h : IsDig c) : isSpace c = false := by
  obtain ⟨k, hk, rfl⟩ := h; exact (digitOf_spec k hk).2.2

theorem showNat_digits (n : Nat) : ∀ c ∈ showNat n, IsDig c := by
  fun_induction showNat n with
  | case1 n h => exact all_cons ⟨n, h, rfl⟩ all_nil
  | case2 n _ ih => exact all_append ih (all_cons ⟨n % 10, Nat.mod_lt _ (by decide), rfl⟩ all_nil)

theorem showNat_ne_nil (n : Nat) : showNat n ≠ [] := by
  fun_cases showNat n
  · exact List.cons_ne_nil _ _
  · exact List.append_ne_nil_of_right_ne_nil _ (List.cons_ne_nil _ _)

theorem showNat_head (n : Nat) : ∃ c t, showNat n = c :: t ∧ IsDig c := by
  cases h : showNat n with
  | nil => exact absurd h (showNat_ne_nil n)
  | cons c t => exact ⟨c, t, rfl, showNat_digits n c (h ▸ List.mem_cons_self)⟩

theorem digitsVal_append (ds : List Char) (c : Char) :
    digitsVal (ds ++ [c]) = digitsVal ds * 10 + (c.toNat - '0'.toNat) :=
  List.foldl_append ..

theorem digitsVal_showNat (n : Nat) : digitsVal (showNat n) = n := by
  fun_induction showNat n with
  | case1 n h => exact (Nat.zero_add _).trans (digitOf_spec n h).2.1
  | case2 n _ ih =>
    rw [digitsVal_append, ih, (digitOf_spec (n % 10) (Nat.mod_lt _ (by decide))).2.1]
    exact Nat.div_add_mod' n 10

theorem takeDigits_append (ds : List Char) (hd : ∀ c ∈ ds, IsDig c) (c : Char) (rest : List Char)
    (hc : isDigit c = false) : takeDigits (ds ++ c :: rest) = (ds, c :: rest) := by
  induction ds with
  | nil => exact if_neg (Bool.eq_false_iff.1 hc)
  | cons d t ih =>
    rw [List.cons_append, takeDigits, if_pos (hd d List.mem_cons_self).isDigit,
      ih fun c h => hd c (List.mem_cons_of_mem _ h)]

theorem lexNum_showNat (w n : Nat) (hn : n < 2 ^ w) (c : Char) (rest : List Char)
    (hc : isDigit c = false) : lexNum w (showNat n ++ c :: rest) = some (n, c :: rest) := by
  unfold lexNum
  rw [takeDigits_append _ (showNat_digits n) c rest hc]
  simp only [List.isEmpty_eq_false_iff.2 (showNat_ne_nil n), Bool.false_eq_true, ↓reduceIte, digitsVal_showNat, hn]

/-! ### Tokens -/

/-- What the lexer can print and read back on `w` bits. -/
def TokOk (w : Nat) : Tok → Prop
  | .depth d => d < 2 ^ w
  | .cell i => i < 2 ^ w
  | .range s e => s < e ∧ e < 2 ^ w

/-- The separator left in the input after a token. -/
def tokSep : Tok → List Char
  | .depth _ => []
  | _ => [' ']

theorem lexTok_show (w : Nat) (t : Tok) (ht : TokOk w t) (X : List Char) :
    lexTok w (showTokC t ++ X) = some (t, tokSep t ++ X) := by
  unfold lexTok
  cases t with
  | depth d =>
    rw [showTokC, List.append_assoc, List.singleton_append, lexNum_showNat w d ht '/' X (by decide)]
    rfl
  | cell i =>
    rw [showTokC, List.append_assoc, List.singleton_append, lexNum_showNat w i ht ' ' X (by decide)]
    rfl
  | range s e =>
    obtain ⟨h1, h2⟩ := ht
    rw [showTokC, List.append_assoc, List.cons_append, List.append_assoc, List.singleton_append,
      lexNum_showNat w s (Nat.lt_trans h1 h2) '-' _ (by decide)]
    simp only []
    rw [lexNum_showNat w (e - 1) (Nat.lt_of_le_of_lt (Nat.sub_le _ _) h2) ' ' X (by decide)]
    simp only [Nat.sub_add_cancel (Nat.succ_le_of_lt (Nat.zero_lt_of_lt h1)), h2, ↓reduceIte]
    rfl

theorem showTokC_head (t : Tok) : ∃ c r, showTokC t = c :: r ∧ IsDig c := by
  have key : ∀ n X, ∃ c r, showNat n ++ X = c :: r ∧ IsDig c := fun n X => by
    obtain ⟨c, r, h, hc⟩ := showNat_head n
    exact ⟨c, r ++ X, by rw [h]; rfl, hc⟩
  cases t <;> exact key _ _

/-! ### White space -/

def AllSpace (l : List Char) : Prop := ∀ c ∈ l, isSpace c = true

theorem dropSpaces_allSpace (sp : List Char) (h : AllSpace sp) (l : List Char) :
    dropSpaces (sp ++ l) = dropSpaces l := by
  induction sp with
  | nil => rfl
  | cons c t ih =>
    rw [List.cons_append, dropSpaces, if_pos (h c List.mem_cons_self)]
    exact ih fun c h' => h c (List.mem_cons_of_mem _ h')

theorem dropSpaces_nonspace (c : Char) (l : List Char) (h : isSpace c = false) :
    dropSpaces (c :: l) = c :: l :=
  if_neg (Bool.eq_false_iff.1 h)

theorem dropSpaces_only (sp : List Char) (h : AllSpace sp) : dropSpaces sp = [] := by
  have := dropSpaces_allSpace sp h []
  rwa [List.append_nil] at this

theorem allSpace_tokSep : ∀ t : Tok, AllSpace (tokSep t)
  | .depth _ => all_nil
  | .cell _ | .range _ _ => all_cons (by decide) all_nil

def showToks (ts : List Tok) : List Char := (ts.map showTokC).flatten

theorem showToks_cons (t : Tok) (ts : List Tok) : showToks (t :: ts) = showTokC t ++ showToks ts := rfl

theorem dropSpaces_showTokC {sp : List Char} (hsp : AllSpace sp) (t : Tok) (X : List Char) :
    dropSpaces (sp ++ (showTokC t ++ X)) = showTokC t ++ X := by
  obtain ⟨c, r, h, hc⟩ := showTokC_head t
  rw [dropSpaces_allSpace sp hsp, h, List.cons_append, dropSpaces_nonspace c _ hc.notSpace]

theorem isEmpty_dropSpaces_showToks {sp tail : List Char} (hsp : AllSpace sp) (htail : AllSpace tail) (ts : List Tok) :
    (dropSpaces (sp ++ (showToks ts ++ tail))).isEmpty = ts.isEmpty := by
  cases ts with
  | nil => exact congrArg List.isEmpty (dropSpaces_only (sp ++ tail) (all_append hsp htail))
  | cons t ts =>
    obtain ⟨c, r, h, _⟩ := showTokC_head t
    rw [showToks_cons, List.append_assoc, dropSpaces_showTokC hsp, h]
    rfl

/-- The lexer inverts the writer's tokenisation.  `sp` is general for the induction: after `t` the lexer is left
    with `tokSep t`. -/
theorem lexAll_showToks (w : Nat) : ∀ (ts : List Tok), ts ≠ [] → (∀ t ∈ ts, TokOk w t) →
    ∀ (fuel : Nat), ts.length ≤ fuel → ∀ (sp tail : List Char), AllSpace sp → AllSpace tail →
    lexAll w fuel (sp ++ (showToks ts ++ tail)) = some ts := by
  intro ts
  induction ts with
  | nil => intro h; exact absurd rfl h
  | cons t ts ih =>
    intro _ hok fuel hf sp tail hsp htail
    cases fuel with
    | zero => exact absurd hf (Nat.not_succ_le_zero _)
    | succ fuel =>
      rw [lexAll, showToks_cons, List.append_assoc, dropSpaces_showTokC hsp, lexTok_show w t (hok t List.mem_cons_self)]
      simp only [isEmpty_dropSpaces_showToks (allSpace_tokSep t) htail]
      cases ts with
      | nil => rfl
      | cons t2 ts2 =>
        rw [ih (List.cons_ne_nil _ _) (fun t' h' => hok t' (List.mem_cons_of_mem _ h')) fuel (Nat.le_of_succ_le_succ hf)
          _ tail (allSpace_tokSep t) htail]
        rfl

theorem showToks_length (ts : List Tok) : ts.length ≤ (showToks ts).length := by
  induction ts with
  | nil => exact Nat.le_refl _
  | cons t ts ih =>
    obtain ⟨c, r, h, _⟩ := showTokC_head t
    rw [showToks_cons, h, List.cons_append, List.length_cons, List.length_cons, List.length_append]
    exact Nat.succ_le_succ (Nat.le_trans ih (Nat.le_add_left _ _))

theorem decodeAscii_showToks (q : Qty) (w : Nat) {ts : List Tok} (hne : ts ≠ []) (hok : ∀ t ∈ ts, TokOk w t)
    {tail : List Char} (htail : AllSpace tail) : decodeAscii q w (showToks ts ++ tail) = decodeToks q w ts := by
  have hf : ts.length ≤ (showToks ts ++ tail).length + 1 :=
    Nat.le_succ_of_le (Nat.le_trans (showToks_length ts) (List.length_append ▸ Nat.le_add_right _ _))
  rw [decodeAscii, show lexAll w _ (showToks ts ++ tail) = some ts from
    lexAll_showToks w ts hne hok _ hf [] tail all_nil htail]

end Moc.Codec
