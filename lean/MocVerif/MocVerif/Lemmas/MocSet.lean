/-
  Lemmas for the abstract moc-set commands of `Model/MocSet.lean` (C14).
-/
import MocVerif.Model.MocSet

namespace Moc

theorem msAppend_fst (s : MocSet) (e : MsEntry) :
    (msAppend s e).1 = if (msAppend s e).2 = true then { s with entries := s.entries ++ [e] } else s := by
  fun_cases msAppend s e <;> rfl

theorem msAppend_snd (s : MocSet) (e : MsEntry) :
    (msAppend s e).2 =
      (!s.entries.any (fun x => x.id == e.id && x.status > 1) && decide (s.entries.length < s.cap)) := by
  fun_cases msAppend s e with
  | case1 h1 => rw [h1]; rfl
  | case2 h1 h2 => rw [Bool.eq_false_iff.2 h1, decide_eq_false (Nat.not_lt.2 h2)]; rfl
  | case3 h1 h2 => rw [Bool.eq_false_iff.2 h1, decide_eq_true (Nat.lt_of_not_ge h2)]; rfl

theorem msMake_some {n : Nat} {l : List MsEntry} {s : MocSet} (h : msMake n l = some s) :
    s = ⟨n, l⟩ ∧ l.length ≤ (⟨n, l⟩ : MocSet).cap ∧ (l.map (·.id)).eraseDups.length = l.length := by
  revert h
  fun_cases msMake n l with
  | case1 _ h1 => intro h; cases h
  | case2 _ h1 h2 => intro h; cases h
  | case3 _ h1 h2 => intro h; exact ⟨(Option.some.inj h).symm, Nat.le_of_not_lt h1, Decidable.not_not.1 h2⟩

theorem chgEntry_live (st : Nat) (ids : List Nat) (x : MsEntry) (h : (chgEntry st ids x).status > 1) :
    x.status > 1 := by
  revert h
  fun_cases chgEntry st ids x with
  | case1 hc => intro _; exact of_decide_eq_true (Bool.and_eq_true_iff.1 hc).1
  | case2 => exact id

end Moc
