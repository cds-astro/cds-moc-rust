/-
  Facts about lists that are not about the model (core only).
-/

namespace Moc

theorem exists_mem_congr {α : Type} {a b : List α} (h : ∀ e, e ∈ a ↔ e ∈ b) (p : α → Prop) :
    (∃ e ∈ a, p e) ↔ ∃ e ∈ b, p e :=
  exists_congr fun e => and_congr_left fun _ => h e

theorem exists_mem_map {α β : Type} (f : α → β) (l : List α) (Q : β → Prop) :
    (∃ b ∈ l.map f, Q b) ↔ ∃ a ∈ l, Q (f a) := by
  constructor
  · rintro ⟨_, hb, hq⟩
    obtain ⟨a, ha, rfl⟩ := List.mem_map.1 hb
    exact ⟨a, ha, hq⟩
  · rintro ⟨a, ha, hq⟩
    exact ⟨f a, List.mem_map_of_mem ha, hq⟩

theorem map_eq_self {α : Type} {f : α → α} {l : List α} (h : ∀ x ∈ l, f x = x) : l.map f = l :=
  (List.map_congr_left h).trans (List.map_id' l)

theorem filterMap_eq_map {α β : Type} (f : α → Option β) (g : α → β) : ∀ l : List α,
    (∀ x ∈ l, f x = some (g x)) → l.filterMap f = l.map g
  | [], _ => rfl
  | x :: t, h => by
    rw [List.filterMap_cons, h x List.mem_cons_self, List.map_cons,
      filterMap_eq_map f g t fun y hy => h y (List.mem_cons_of_mem _ hy)]

theorem mem_range_sub_map (f : Nat → α) (a b : Nat) (y : α) :
    y ∈ (List.range (b - a)).map (fun i => f (a + i)) ↔ ∃ u, a ≤ u ∧ u < b ∧ y = f u := by
  rw [List.mem_map]
  constructor
  · rintro ⟨i, hi, rfl⟩; exact ⟨a + i, Nat.le_add_right _ _, Nat.add_lt_of_lt_sub' (List.mem_range.1 hi), rfl⟩
  · rintro ⟨u, h1, h2, rfl⟩
    exact ⟨u - a, List.mem_range.2 (Nat.sub_lt_sub_right h1 h2), by rw [Nat.add_sub_cancel' h1]⟩

section
variable {α : Type} {P : α → Prop}

theorem all_nil : ∀ x ∈ ([] : List α), P x := fun _ h => nomatch h

theorem all_cons {a : α} {t : List α} (ha : P a) (ht : ∀ x ∈ t, P x) : ∀ x ∈ a :: t, P x :=
  List.forall_mem_cons.2 ⟨ha, ht⟩

theorem all_append {a b : List α} (ha : ∀ x ∈ a, P x) (hb : ∀ x ∈ b, P x) : ∀ x ∈ a ++ b, P x :=
  List.forall_mem_append.2 ⟨ha, hb⟩

end

section
variable {α : Type} (p : α → Prop)

theorem exists_mem_nil : (∃ e ∈ ([] : List α), p e) ↔ False := iff_false_intro fun ⟨_, h, _⟩ => List.not_mem_nil h

theorem exists_mem_cons (a : α) (l : List α) : (∃ e ∈ a :: l, p e) ↔ p a ∨ ∃ e ∈ l, p e := by
  simp only [List.mem_cons, exists_eq_or_imp]

theorem exists_mem_append (a b : List α) : (∃ e ∈ a ++ b, p e) ↔ (∃ e ∈ a, p e) ∨ ∃ e ∈ b, p e := by
  simp only [List.mem_append, or_and_right, exists_or]

end

end Moc
