/-
  C09 / C10 — flat space-time coverages (`FlatST`: one time range per entry), what both sweeps (`Ranges2D::merge`,
  `make_consistent`) produce.  The point set `memFlat`; the segments pushed under a sweep line (`Covers`); the valid
  flat form `VF`, which the final pass establishes (`postPass_spec`), which the judge `validFlatB` accepts, and which
  is a NORMAL form: two valid flat coverages covering the same (instant, position) pairs are equal (`VF.ext`).
-/
import MocVerif.Model.Merge2D
import MocVerif.Lemmas.Canon
import MocVerif.Lemmas.Shift

namespace Moc.Merge2D
open Moc

def memFlat (t s : Nat) (f : FlatST) : Prop := ∃ e ∈ f, e.1.1 ≤ t ∧ t < e.1.2 ∧ mem s e.2

theorem memFlat_nil (t s : Nat) : memFlat t s [] ↔ False := exists_mem_nil _

theorem memFlat_cons (t s : Nat) (x : Rng × Space) (r : FlatST) :
    memFlat t s (x :: r) ↔ (x.1.1 ≤ t ∧ t < x.1.2 ∧ mem s x.2) ∨ memFlat t s r := exists_mem_cons _ x r

theorem memFlat_append (t s : Nat) (a b : FlatST) : memFlat t s (a ++ b) ↔ memFlat t s a ∨ memFlat t s b :=
  exists_mem_append _ a b

theorem memFlat_cons_empty {t s : Nat} {x : Rng × Space} {r : FlatST} (h : ¬ x.1.1 < x.1.2) :
    memFlat t s (x :: r) ↔ memFlat t s r := by
  rw [memFlat_cons]
  exact or_iff_right fun ⟨a, b, _⟩ => h (Nat.lt_of_le_of_lt a b)

theorem memFlat_fuse {t s a b c : Nat} {p : Space} {r : FlatST} (hab : a ≤ b) (hbc : b ≤ c) :
    memFlat t s (((a, c), p) :: r) ↔ memFlat t s (((a, b), p) :: ((b, c), p) :: r) := by
  rw [memFlat_cons, memFlat_cons, memFlat_cons, ← or_assoc, ← and_assoc, ← and_assoc, ← and_assoc, ← or_and_right,
    ico_append hab hbc]

/-- Segments as a sweep pushes them: in order from `lo`, possibly of length zero (the final pass drops those). -/
def SegFrom (lo : Nat) : FlatST → Prop
  | [] => True
  | e :: t => lo ≤ e.1.1 ∧ e.1.1 ≤ e.1.2 ∧ SegFrom e.1.2 t

def lastEndF (lo : Nat) : FlatST → Nat
  | [] => lo
  | e :: t => lastEndF e.1.2 t

theorem SegFrom.mono {lo lo' : Nat} {f : FlatST} (h : SegFrom lo f) (hle : lo' ≤ lo) : SegFrom lo' f := by
  cases f with
  | nil => trivial
  | cons e t => exact ⟨Nat.le_trans hle h.1, h.2.1, h.2.2⟩

theorem segFrom_append (x : Rng × Space) : ∀ (f : FlatST) (lo : Nat),
    SegFrom lo (f ++ [x]) ↔ SegFrom lo f ∧ lastEndF lo f ≤ x.1.1 ∧ x.1.1 ≤ x.1.2 := by
  intro f
  induction f with
  | nil => intro lo; simp [SegFrom, lastEndF]
  | cons e t ih => intro lo; simp only [List.cons_append, SegFrom, lastEndF, ih e.1.2, and_assoc]

theorem lastEndF_append (x : Rng × Space) : ∀ (f : FlatST) (lo : Nat), lastEndF lo (f ++ [x]) = x.1.2 := by
  intro f
  induction f with
  | nil => intro lo; rfl
  | cons e t ih => intro lo; simp only [List.cons_append, lastEndF, ih]

theorem segFrom_ends {lo : Nat} {f : FlatST} (h : SegFrom lo f) : lo ≤ lastEndF lo f ∧ ∀ e ∈ f, e.1.2 ≤ lastEndF lo f := by
  induction f generalizing lo with
  | nil => exact ⟨Nat.le_refl _, fun e he => nomatch he⟩
  | cons a t ih =>
    have ⟨k1, k2⟩ := ih h.2.2
    exact ⟨Nat.le_trans (Nat.le_trans h.1 h.2.1) k1, List.forall_mem_cons.2 ⟨k1, k2⟩⟩

/-- What both sweeps (`Ranges2D::merge`, `make_consistent`) maintain about the segments pushed so far: they are in
    order and end at or before the sweep line `cl`, each satisfies `Q`, and below `cl` they cover exactly `C`. -/
structure Covers (Q : Rng × Space → Prop) (C : Nat → Nat → Prop) (cl : Nat) (F : FlatST) : Prop where
  seg : SegFrom 0 F
  endLe : lastEndF 0 F ≤ cl
  all : ∀ e ∈ F, Q e
  sem : ∀ t s, t < cl → (memFlat t s F ↔ C t s)

section Covers
variable {Q : Rng × Space → Prop} {C : Nat → Nat → Prop} {cl c : Nat} {F : FlatST}

theorem Covers.nil : Covers Q C 0 [] :=
  ⟨trivial, Nat.le_refl _, fun _ he => (nomatch he), fun _ _ ht => (nomatch ht)⟩

theorem Covers.not_mem (h : Covers Q C cl F) {t s : Nat} (ht : cl ≤ t) : ¬ memFlat t s F := by
  rintro ⟨e, he, _, h2, _⟩
  exact absurd h2 (Nat.not_lt.2 (Nat.le_trans (Nat.le_trans ((segFrom_ends h.seg).2 e he) h.endLe) ht))

theorem Covers.idle (h : Covers Q C cl F) (hc : cl ≤ c) (hC : ∀ t s, cl ≤ t → t < c → ¬ C t s) : Covers Q C c F := by
  refine ⟨h.seg, Nat.le_trans h.endLe hc, h.all, fun t s ht => ?_⟩
  by_cases htl : t < cl
  · exact h.sem t s htl
  · exact iff_of_false (h.not_mem (Nat.le_of_not_lt htl)) (hC t s (Nat.le_of_not_lt htl) ht)

theorem Covers.push (h : Covers Q C cl F) (hc : cl ≤ c) {p : Space} (hQ : Q ((cl, c), p))
    (hC : ∀ t s, cl ≤ t → t < c → (C t s ↔ mem s p)) : Covers Q C c (F ++ [((cl, c), p)]) := by
  refine ⟨(segFrom_append _ _ _).2 ⟨h.seg, h.endLe, hc⟩, Nat.le_of_eq (lastEndF_append _ _ _),
    List.forall_mem_append.2 ⟨h.all, List.forall_mem_singleton.2 hQ⟩, fun t s ht => ?_⟩
  rw [memFlat_append, memFlat_cons]
  simp only [memFlat_nil, or_false]
  by_cases htl : t < cl
  · rw [← h.sem t s htl]
    exact ⟨fun hm => hm.elim id (fun hm => absurd htl (Nat.not_lt.2 hm.1)), Or.inl⟩
  · have hle : cl ≤ t := Nat.le_of_not_lt htl
    rw [hC t s hle ht]
    exact ⟨fun hm => hm.elim (fun hm => absurd hm (h.not_mem hle)) (fun hm => hm.2.2), fun hm => Or.inr ⟨hle, ht, hm⟩⟩

end Covers

/-- Valid flat coverage; `pe`, `ps` are the end and the coverage of the previous entry, so that the fifth clause says
    that two touching ranges never carry the same coverage. -/
def VF (P : Space → Prop) (pe : Nat) (ps : Option Space) : FlatST → Prop
  | [] => True
  | e :: t => pe ≤ e.1.1 ∧ e.1.1 < e.1.2 ∧ e.2 ≠ [] ∧ P e.2 ∧ ¬ (pe = e.1.1 ∧ ps = some e.2) ∧
      VF P e.1.2 (some e.2) t

section
variable {P : Space → Prop} {e : Rng × Space} {r : FlatST} {pe : Nat} {ps : Option Space} (h : VF P pe ps (e :: r))
include h

theorem VF.prev_le : pe ≤ e.1.1 := h.1
theorem VF.range_lt : e.1.1 < e.1.2 := h.2.1
theorem VF.ne_nil : e.2 ≠ [] := h.2.2.1
theorem VF.sat : P e.2 := h.2.2.2.1
theorem VF.unfused : ¬ (pe = e.1.1 ∧ ps = some e.2) := h.2.2.2.2.1
theorem VF.tail : VF P e.1.2 (some e.2) r := h.2.2.2.2.2

end

theorem postPassFrom_spec (P : Space → Prop) : ∀ (rest : FlatST) (c : Rng × Space) (pe : Nat) (ps : Option Space),
    VF P pe ps [c] → SegFrom c.1.2 rest → (∀ e ∈ rest, e.2 ≠ [] ∧ P e.2) →
    VF P pe ps (postPassFrom c rest) ∧
    ∀ t s, memFlat t s (postPassFrom c rest) ↔ memFlat t s (c :: rest) := by
  intro rest
  induction rest with
  | nil => exact fun c pe ps hc _ _ => ⟨hc, fun t s => Iff.rfl⟩
  | cons x rest ih =>
    intro c pe ps ⟨h1, h2, h3, h4, h5, _⟩ ⟨g1, g2, g3⟩ hsp
    have ⟨hx, hsp'⟩ := List.forall_mem_cons.1 hsp
    obtain ⟨⟨ta, tb⟩, sp⟩ := x
    have hcond : (decide (c.1.2 = ta) && c.2 == sp) = true ↔ c.1.2 = ta ∧ c.2 = sp := by
      simp only [Bool.and_eq_true, decide_eq_true_eq, beq_iff_eq]
    simp only [postPassFrom]
    by_cases hlt : ta < tb
    · rw [if_pos hlt]
      by_cases hfuse : (decide (c.1.2 = ta) && c.2 == sp) = true
      · rw [if_pos hfuse]
        obtain ⟨rfl, rfl⟩ := hcond.1 hfuse
        have := ih ((c.1.1, tb), c.2) pe ps ⟨h1, Nat.lt_trans h2 hlt, h3, h4, h5, trivial⟩ g3 hsp'
        exact ⟨this.1, fun t s => (this.2 t s).trans (memFlat_fuse (Nat.le_of_lt h2) (Nat.le_of_lt hlt))⟩
      · rw [if_neg hfuse]
        have := ih ((ta, tb), sp) c.1.2 (some c.2)
          ⟨g1, hlt, hx.1, hx.2, fun h => hfuse (hcond.2 ⟨h.1, Option.some.inj h.2⟩), trivial⟩ g3 hsp'
        exact ⟨⟨h1, h2, h3, h4, h5, this.1⟩, fun t s => by rw [memFlat_cons, this.2 t s, ← memFlat_cons]⟩
    · rw [if_neg hlt]
      have := ih c pe ps ⟨h1, h2, h3, h4, h5, trivial⟩ (g3.mono (Nat.le_trans g1 g2)) hsp'
      exact ⟨this.1, fun t s => by rw [this.2 t s, memFlat_cons, memFlat_cons, memFlat_cons_empty hlt]⟩

theorem postPass_spec (P : Space → Prop) : ∀ (f : FlatST) (lo : Nat), SegFrom lo f → (∀ e ∈ f, e.2 ≠ [] ∧ P e.2) →
    VF P lo none (postPass f) ∧ ∀ t s, memFlat t s (postPass f) ↔ memFlat t s f := by
  intro f
  induction f with
  | nil => intro lo _ _; exact ⟨trivial, fun t s => Iff.rfl⟩
  | cons x rest ih =>
    intro lo ⟨g1, g2, g3⟩ hsp
    have ⟨hx, hsp'⟩ := List.forall_mem_cons.1 hsp
    obtain ⟨tr, sp⟩ := x
    simp only [postPass]
    by_cases hlt : tr.1 < tr.2
    · rw [if_pos hlt]
      exact postPassFrom_spec P rest (tr, sp) lo none ⟨g1, hlt, hx.1, hx.2, fun h => (nomatch h.2), trivial⟩ g3 hsp'
    · rw [if_neg hlt]
      have := ih lo (g3.mono (Nat.le_trans g1 g2)) hsp'
      exact ⟨this.1, fun t s => by rw [this.2 t s, memFlat_cons_empty hlt]⟩

theorem Covers.final {P : Space → Prop} {Q : Rng × Space → Prop} {C : Nat → Nat → Prop} {cl : Nat} {F : FlatST}
    (h : Covers Q C cl F) (hQ : ∀ e, Q e → e.2 ≠ [] ∧ P e.2) (hC : ∀ t s, cl ≤ t → ¬ C t s) :
    VF P 0 none (postPass F) ∧ ∀ t s, memFlat t s (postPass F) ↔ C t s := by
  have pp := postPass_spec P F 0 h.seg fun e he => hQ e (h.all e he)
  refine ⟨pp.1, fun t s => (pp.2 t s).trans ?_⟩
  by_cases ht : t < cl
  · exact h.sem t s ht
  · exact iff_of_false (h.not_mem (Nat.le_of_not_lt ht)) (hC t s (Nat.le_of_not_lt ht))

theorem VF.starts {P : Space → Prop} : ∀ {g : FlatST} {pe : Nat} {ps : Option Space}, VF P pe ps g →
    ∀ e ∈ g, pe ≤ e.1.1 := by
  intro g
  induction g with
  | nil => intro pe ps _ e he; cases he
  | cons x r ih =>
    intro pe ps h e he
    cases he with
    | head => exact h.prev_le
    | tail _ hm => exact Nat.le_trans (Nat.le_trans h.prev_le (Nat.le_of_lt h.range_lt)) (ih h.tail e hm)

section
variable {P : Space → Prop} {e f : Rng × Space} {r ra rb : FlatST} {pe pe' : Nat} {ps ps' : Option Space}

theorem VF.head_mem (h : VF P pe ps (e :: r)) {t : Nat} (ht : t < e.1.2) (s : Nat) :
    memFlat t s (e :: r) ↔ e.1.1 ≤ t ∧ mem s e.2 := by
  rw [memFlat_cons]
  exact ⟨fun hm => hm.elim (fun ⟨a1, _, a3⟩ => ⟨a1, a3⟩) (fun ⟨x, hx, x1, _, _⟩ =>
      absurd (Nat.lt_of_lt_of_le ht (Nat.le_trans (VF.starts h.tail x hx) x1)) (Nat.lt_irrefl _)),
    fun ⟨a1, a3⟩ => Or.inl ⟨a1, ht, a3⟩⟩

theorem VF.tail_mem (h : VF P pe ps (e :: r)) (t s : Nat) :
    memFlat t s r ↔ e.1.2 ≤ t ∧ memFlat t s (e :: r) := by
  rw [memFlat_cons]
  exact ⟨fun ⟨x, hx, x1, x2, x3⟩ => ⟨Nat.le_trans (VF.starts h.tail x hx) x1, Or.inr ⟨x, hx, x1, x2, x3⟩⟩,
    fun ⟨hle, hm⟩ => hm.elim (fun ⟨_, a2, _⟩ => absurd (Nat.lt_of_lt_of_le a2 hle) (Nat.lt_irrefl _)) id⟩

/-- What `unfused` is for: after an entry of coverage `p` ending at `pe`, what is covered at `pe` is not `p` again. -/
theorem VF.differs {p : Space} (h : VF Canon pe (some p) r) (hp : Canon p) (hne : p ≠ []) :
    ¬ ∀ s, memFlat pe s r ↔ mem s p := by
  intro hall
  obtain ⟨s0, hs0⟩ := canon_witness hp hne
  cases r with
  | nil => exact (memFlat_nil pe s0).1 ((hall s0).2 hs0)
  | cons g rg =>
    have hg : ∀ s, g.1.1 ≤ pe ∧ mem s g.2 ↔ mem s p := fun s =>
      (VF.head_mem h (Nat.lt_of_le_of_lt h.prev_le h.range_lt) s).symm.trans (hall s)
    have htouch : g.1.1 ≤ pe := ((hg s0).2 hs0).1
    exact h.unfused ⟨Nat.le_antisymm h.prev_le htouch,
      congrArg some (Canon.ext hp h.sat fun s => ⟨fun m => ((hg s).2 m).2, fun m => (hg s).1 ⟨htouch, m⟩⟩)⟩

theorem VF.exists_mem (h : VF Canon pe ps (e :: r)) : ∃ s, memFlat e.1.1 s (e :: r) :=
  have ⟨s, hs⟩ := canon_witness h.sat h.ne_nil
  ⟨s, (VF.head_mem h h.range_lt s).2 ⟨Nat.le_refl _, hs⟩⟩

theorem VF.start_le (ha : VF Canon pe ps (e :: ra)) (hb : VF Canon pe' ps' (f :: rb))
    (h : ∀ t s, memFlat t s (e :: ra) → memFlat t s (f :: rb)) : f.1.1 ≤ e.1.1 := by
  obtain ⟨s, hs⟩ := VF.exists_mem ha
  by_cases hlt : e.1.1 < f.1.2
  · exact ((VF.head_mem hb hlt s).1 (h _ s hs)).1
  · exact Nat.le_trans (Nat.le_of_lt hb.range_lt) (Nat.le_of_not_lt hlt)

theorem VF.end_le (ha : VF Canon pe ps (e :: ra)) (hb : VF Canon pe' ps' (f :: rb)) (hstart : e.1.1 = f.1.1)
    (hspace : e.2 = f.2) (h : ∀ t s, memFlat t s (e :: ra) ↔ memFlat t s (f :: rb)) : f.1.2 ≤ e.1.2 := by
  apply Nat.le_of_not_lt
  intro hlt
  refine VF.differs ha.tail ha.sat ha.ne_nil fun s => ?_
  rw [VF.tail_mem ha, h, VF.head_mem hb hlt, hspace]
  exact ⟨fun h => h.2.2, fun h => ⟨Nat.le_refl _, hstart ▸ Nat.le_of_lt ha.range_lt, h⟩⟩

theorem VF.ext : ∀ (a b : FlatST) (pe : Nat) (ps : Option Space), VF Canon pe ps a → VF Canon pe ps b →
    (∀ t s, memFlat t s a ↔ memFlat t s b) → a = b := by
  intro a
  induction a with
  | nil =>
    intro b pe ps _ hb h
    cases b with
    | nil => rfl
    | cons f r => exact have ⟨s, hs⟩ := VF.exists_mem hb; nomatch (h _ s).2 hs
  | cons e ra ih =>
    intro b pe ps ha hb h
    cases b with
    | nil => exact have ⟨s, hs⟩ := VF.exists_mem ha; nomatch (h _ s).1 hs
    | cons f rb =>
      have hstart : e.1.1 = f.1.1 :=
        Nat.le_antisymm (VF.start_le hb ha fun t s => (h t s).2) (VF.start_le ha hb fun t s => (h t s).1)
      have hspace : e.2 = f.2 := Canon.ext ha.sat hb.sat fun s => by
        have := h e.1.1 s
        rw [VF.head_mem ha ha.range_lt, VF.head_mem hb (hstart ▸ hb.range_lt)] at this
        exact ⟨fun hm => (this.1 ⟨Nat.le_refl _, hm⟩).2, fun hm => (this.2 ⟨Nat.le_of_eq hstart.symm, hm⟩).2⟩
      have hend : e.1.2 = f.1.2 :=
        Nat.le_antisymm (VF.end_le hb ha hstart.symm hspace.symm fun t s => (h t s).symm) (VF.end_le ha hb hstart hspace h)
      have hef : e = f := Prod.ext (Prod.ext hstart hend) hspace
      subst hef
      congr 1
      refine ih rb e.1.2 (some e.2) ha.tail hb.tail fun t s => ?_
      rw [VF.tail_mem ha, VF.tail_mem hb, h]

end

def toST (f : FlatST) : STMoc := f.map fun e => ([e.1], e.2)

theorem memST_toST (t s : Nat) (f : FlatST) : memST t s (toST f) ↔ memFlat t s f := by
  constructor
  · rintro ⟨e, he, h1, h2⟩
    obtain ⟨x, hx, rfl⟩ := List.mem_map.1 he
    simp only [mem, or_false] at h1
    exact ⟨x, hx, h1.1, h1.2, h2⟩
  · rintro ⟨x, hx, h1, h2, h3⟩
    exact ⟨([x.1], x.2), List.mem_map.2 ⟨x, hx, rfl⟩, by simp [mem]; exact ⟨h1, h2⟩, h3⟩

theorem validFlatB_of_VF : ∀ (g : FlatST) (pe : Nat) (ps : Option Space), VF Canon pe ps g →
    validFlatB (toST g) = true := by
  intro g
  induction g with
  | nil => intro _ _ _; rfl
  | cons e r ih =>
    intro pe ps h
    have hc : canonB e.2 = true := (canonB_iff e.2).2 h.sat
    have hne : e.2.isEmpty = false := List.isEmpty_eq_false_iff.2 h.ne_nil
    cases r with
    | nil =>
      simp only [toST, List.map_cons, List.map_nil, validFlatB, decide_eq_true h.range_lt, hc, hne, Bool.not_false,
        Bool.and_self]
    | cons f r' =>
      have ihr := ih e.1.2 (some e.2) h.tail
      have hnt : (decide (e.1.2 = f.1.1) && e.2 == f.2) = false := Bool.eq_false_iff.2 fun hf => by
        simp only [Bool.and_eq_true, decide_eq_true_eq, beq_iff_eq] at hf
        exact h.tail.unfused ⟨hf.1, congrArg some hf.2⟩
      simp only [toST, List.map_cons, validFlatB] at ihr ⊢
      simp only [decide_eq_true h.range_lt, decide_eq_true h.tail.prev_le, hnt, hc, hne, Bool.not_false, Bool.and_self,
        Bool.true_and]
      exact ihr

/-- `h` has the shape of what the `_spec` theorems of both sweeps conclude. -/
theorem toST_spec {g : FlatST} {C : Nat → Nat → Prop} (h : VF Canon 0 none g ∧ ∀ t s, memFlat t s g ↔ C t s) :
    validFlatB (toST g) = true ∧ ∀ t s, memST t s (toST g) ↔ C t s :=
  ⟨validFlatB_of_VF g 0 none h.1, fun t s => (memST_toST t s g).trans (h.2 t s)⟩

end Moc.Merge2D
