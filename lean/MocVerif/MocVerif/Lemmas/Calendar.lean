/-
  C19 — `gregorian2jd` counts days: it is the day count of the Gregorian calendar in closed form
  (`jd_closed`), hence the day after a civil date has the next Julian day number.
-/
import MocVerif.Model.Calendar

namespace Moc.Calendar

/-- The end-of-February step on the 400 residues of the Gregorian cycle, in Richards' own terms. -/
theorem feb_fin : ∀ r, r < 400 →
    (1461 * (r + 4716)) / 4 + (3 * ((r + 4899) / 100)) / 4
      = (1461 * (r + 4715)) / 4 + (if isLeap r then 29 else 28) + 337 + (3 * ((r + 4900) / 100)) / 4 := by
  decide +kernel

/-- Days in `Y` whole Gregorian years. -/
def days (Y : Nat) : Nat := 365 * Y + Y / 4 - Y / 100 + Y / 400

/-- The same without subtraction: the form to calculate with. -/
theorem days_add (Y : Nat) : days Y + Y / 100 = 365 * Y + Y / 4 + Y / 400 := by
  have h : Y / 100 ≤ 365 * Y + Y / 4 :=
    Nat.le_trans (Nat.div_le_div_left (by decide) (by decide)) (Nat.le_add_left _ _)
  rw [days, Nat.add_right_comm, Nat.sub_add_cancel h]

theorem gregorian_rule (n : Nat) : (if 4 ∣ n then 1 else 0) + (if 400 ∣ n then 1 else 0) + 365 =
    (if 100 ∣ n then 1 else 0) + if isLeap n then 366 else 365 := by
  have h1 : 400 ∣ n → 100 ∣ n := Nat.dvd_trans (by decide)
  have h2 : 100 ∣ n → 4 ∣ n := Nat.dvd_trans (by decide)
  simp only [isLeap, ne_eq, ← Nat.dvd_iff_mod_eq_zero]
  by_cases c4 : 4 ∣ n
  · by_cases c100 : 100 ∣ n
    · by_cases c400 : 400 ∣ n
      · rw [if_pos c4, if_pos c100, if_pos c400, if_pos ⟨c4, .inr c400⟩]
      · rw [if_pos c4, if_pos c100, if_neg c400, if_neg (fun h => h.2.elim (· c100) c400)]
    · rw [if_pos c4, if_neg c100, if_neg (mt h1 c100), if_pos ⟨c4, .inl c100⟩]
  · rw [if_neg c4, if_neg (mt h2 c4), if_neg (mt h1 (mt h2 c4)), if_neg (fun h => c4 h.1)]

theorem days_succ (Y : Nat) : days (Y + 1) = days Y + if isLeap (Y + 1) then 366 else 365 := by
  have e1 := days_add (Y + 1)
  -- `Nat.succ_div`: `(Y + 1) / k = Y / k + [k ∣ Y + 1]`
  simp only [Nat.succ_div] at e1
  have e0 := days_add Y
  have hg := gregorian_rule (Y + 1)
  generalize Y / 4 = A at e1 e0
  generalize Y / 100 = B at e1 e0
  generalize Y / 400 = C at e1 e0
  omega

theorem isLeap_add_400 (y : Nat) : isLeap (y + 400) ↔ isLeap y := by
  have e4 : (y + 400) % 4 = y % 4 := Nat.add_mul_mod_self_left y 4 100
  have e100 : (y + 400) % 100 = y % 100 := Nat.add_mul_mod_self_left y 100 4
  rw [isLeap, e4, e100, Nat.add_mod_right]

/-- Days from 1 March to the first of month `m` (the year of Richards' algorithm starts in March). -/
def tOf (m : Nat) : Nat := (153 * ((m + 9) % 12) + 2) / 5

/-- `gregorian2jd` is the day count: whole years, whole months since March, days.  The years are counted from
    March of year −400 (`(14 - m) / 12` is 1 in January and February, which belong to the previous March-based
    year): a multiple of the 400-year cycle, so that leap years stay where they are and January, February of
    year 0 are no special case. -/
theorem jd_closed (y m d : Nat) :
    gregorian2jd y m d = days (y + 400 - (14 - m) / 12) + tOf m + d + 1575022 := by
  unfold gregorian2jd calendar2f tOf
  simp only [Nat.shiftRight_eq_div_pow, Nat.reducePow]
  -- `(14 - m) / 12 ≤ 1`: the year `g` of the algorithm is `Y + 4316`, `Y` the March-based year
  rw [show y + 4716 = y + 400 + 4316 from (Nat.add_assoc y 400 4316).symm, Nat.sub_add_comm
    (Nat.le_trans (Nat.div_le_div_right (Nat.sub_le 14 m)) (Nat.le_add_left 1 (y + 399)))]
  generalize y + 400 - (14 - m) / 12 = Y
  generalize (153 * ((m + 9) % 12) + 2) / 5 = t
  -- Richards' year term: `1461 (Y + 4316) = 4 (365 Y + 1576419) + Y`, and `1576419 = 1575017 + 1402`
  rw [show 1461 * (Y + 4316) = 4 * (365 * Y + 1575017 + 1402) + Y by omega, Nat.mul_add_div (by decide),
    Nat.add_right_comm _ 1402, Nat.add_right_comm _ 1402, Nat.add_sub_cancel]
  -- his century term, in `B = Y / 100`: `(Y + 4500) / 100 = B + 45`, `Y / 400 = B / 4`
  have hc : (3 * ((Y + 4316 + 184) / 100)) / 4 + Y / 400 = Y / 100 + 33 := by
    rw [Nat.add_assoc Y, show (4316 + 184 : Nat) = 100 * 45 from rfl, Nat.add_mul_div_left _ _ (by decide),
      show (400 : Nat) = 100 * 4 from rfl, ← Nat.div_div_eq_div_mul]
    generalize Y / 100 = B
    omega
  -- what is left is linear, and the subtraction of the century term is exact
  have sum : ∀ X A B C c D : Nat, D + B = X + A + C → c + C = B + 33 →
      X + 1575017 + A + d + t = D + t + d + 1574984 + c := by intros; omega
  rw [show (1575022 : Nat) = 1574984 + 38 from rfl, ← Nat.add_assoc]
  exact congrArg (· + 38) (Nat.sub_eq_of_eq_add (sum _ _ _ _ _ _ (days_add Y) hc))

/-- Outside February, month `m + 1` starts `monthLen` days after month `m`, in the same March-based year. -/
theorem month_table : ∀ m < 12, 1 ≤ m → m ≠ 2 →
    tOf (m + 1) = tOf m + monthLen 0 m ∧ (14 - (m + 1)) / 12 = (14 - m) / 12 := by
  decide

theorem jd_next_day (y m d : Nat) (hm : 1 ≤ m ∧ m ≤ 12) (hd : 1 ≤ d ∧ d ≤ monthLen y m) :
    gregorian2jd (nextDay y m d).1 (nextDay y m d).2.1 (nextDay y m d).2.2 = gregorian2jd y m d + 1 := by
  unfold nextDay
  -- at the end of a month the next one starts `monthLen y m` days after it (`a + b`), on day 1
  have sum : ∀ D a b K : Nat, D + (a + b) + 1 + K = D + a + b + K + 1 := fun D a b K => by
    rw [← Nat.add_assoc, Nat.add_right_comm _ 1]
  by_cases hlt : d < monthLen y m
  · simp only [if_pos hlt, jd_closed]; exact Nat.add_right_comm _ 1 _
  · obtain rfl : d = monthLen y m := Nat.le_antisymm hd.2 (Nat.le_of_not_lt hlt)
    rw [if_neg hlt]
    by_cases h2 : m = 2
    · -- end of February: the March-based year `y + 399` is over, `tOf` falls from 337 to 0
      subst h2
      have hs : days (y + 400) = days (y + 399) + (337 + monthLen y 2) := by
        rw [show y + 400 = y + 399 + 1 from rfl, days_succ, monthLen, if_pos rfl]
        by_cases h : isLeap y
        · rw [if_pos h, if_pos ((isLeap_add_400 y).2 h)]
        · rw [if_neg h, if_neg (mt (isLeap_add_400 y).1 h)]
      simp only [jd_closed, tOf, Nat.reduceLT, Nat.reduceAdd, Nat.reduceSub, Nat.reduceDiv, Nat.reduceMod,
        Nat.reduceMul, ↓reduceIte, Nat.sub_zero, Nat.reduceSubDiff, hs, Nat.add_zero]
      exact sum _ _ _ _
    · by_cases h12 : m < 12
      · obtain ⟨ht, hk⟩ := month_table m h12 hm.1 h2
        have hl : monthLen y m = monthLen 0 m := by simp only [monthLen, if_neg h2]
        simp only [if_pos h12, jd_closed, ht, hk, hl]; exact sum _ _ _ _
      · -- 31 December: a new civil year, the same March-based year
        obtain rfl : m = 12 := Nat.le_antisymm hm.2 (Nat.le_of_not_lt h12)
        have ht : tOf 1 = tOf 12 + monthLen y 12 := rfl
        simp only [if_neg h12, jd_closed, ht, Nat.reduceSub, Nat.reduceDiv, Nat.add_right_comm y 1 400,
          Nat.add_sub_cancel, Nat.sub_zero]
        exact sum _ _ _ _

end Moc.Calendar
