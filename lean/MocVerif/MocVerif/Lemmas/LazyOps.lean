/-
  The lazy operators of `Model/LazyOps.lean` yield what the eager functions return: the loops of `xor` and `minus`
  compute the set operation, and the fast paths of `and` / `or` / `minus` change nothing when the `peek_last` hints of
  the operands are consistent (`Src.HintOk`).
-/
import MocVerif.Lemmas.SetOps
import MocVerif.Lemmas.Sweep
import MocVerif.Model.LazyOps

namespace Moc

set_option hygiene false in
/-- One case of a two-pointer loop proof: `ih` instantiated at lower bound `lo'`. -/
macro "loop_case" ih:ident lo:term : tactic => `(tactic| (
  have hih := $ih $lo (by canon_tac) (by canon_tac)
  refine ⟨?_, fun x => ?_⟩
  · have hih1 := hih.1; canon_tac
  · have lbl := @CanonFrom.lb _ _ hl3 x
    have lbr := @CanonFrom.lb _ _ hr3 x
    simp [hih.2]
    grind))

section
variable {o lt rt : List Rng} {l r : Rng}

/-- `o` is a correct result of xor on `l` and `r`.  The cases of `xorLoop_spec` are built from the moves below: a case
    that is the mirror image of another one goes through `symm`, and where the heads overlap, what the starts do (`cut`)
    is separate from what the ends do (`same`, `shorter`). -/
def XorSpec (o l r : List Rng) : Prop := ∀ lo, CanonFrom lo l → CanonFrom lo r →
  CanonFrom lo o ∧ ∀ x, mem x o ↔ (mem x l ↔ ¬ mem x r)

theorem XorSpec.symm {l r : List Rng} (h : XorSpec o l r) : XorSpec o r l := fun lo hr hl =>
  ⟨(h lo hl hr).1, fun x => ((h lo hl hr).2 x).trans Decidable.iff_not_comm⟩

/-- Heads that touch are joined. -/
theorem XorSpec.join (h : XorSpec o lt ((l.1, r.2) :: rt)) (h1 : l.2 = r.1) : XorSpec o (l :: lt) (r :: rt) := by
  intro lo hl hr; loop_step hl hr h lo

/-- A head that ends before the other one starts is emitted. -/
theorem XorSpec.before (h : XorSpec o lt (r :: rt)) (h1 : l.2 < r.1) : XorSpec (l :: o) (l :: lt) (r :: rt) := by
  intro lo hl hr; loop_step hl hr h (l.2 + 1)

/-- Heads that overlap: the part of `l` before `r` is emitted.  The heads that are left both start at `r.1`, which the
    rest of the result therefore does not cover: it starts beyond `r.1`. -/
theorem XorSpec.cut (h : XorSpec o ((r.1, l.2) :: lt) (r :: rt)) (h1 : l.1 < r.1) (h2 : ¬ l.2 < r.1)
    (h3 : ¬ l.2 = r.1) : XorSpec ((l.1, r.1) :: o) (l :: lt) (r :: rt) := by
  intro lo hl hr
  obtain ⟨hl1, hl2, hl3⟩ := hl
  obtain ⟨hr1, hr2, hr3⟩ := hr
  have hlr : r.1 < l.2 := Nat.lt_of_le_of_ne (Nat.le_of_not_lt h2) (Ne.symm h3)
  obtain ⟨hcan, hmem⟩ := h r.1 ⟨Nat.le_refl _, hlr, hl3⟩ ⟨Nat.le_refl _, hr2, hr3⟩
  have hcan := hcan.succ_of_not_mem fun hx =>
    ((hmem _).1 hx).1 (Or.inl ⟨Nat.le_refl _, hlr⟩) (Or.inl ⟨Nat.le_refl _, hr2⟩)
  refine ⟨⟨hl1, h1, hcan⟩, fun x => ?_⟩
  have lbl := @CanonFrom.lb _ _ hl3 x
  have lbr := @CanonFrom.lb _ _ hr3 x
  simp only [mem_cons, hmem]
  clear hmem hcan hl3 hr3 h
  grind

/-- Heads with the same start cancel up to the first end. -/
theorem XorSpec.same (h : XorSpec o lt rt) (h1 : l.1 = r.1) (h2 : l.2 = r.2) : XorSpec o (l :: lt) (r :: rt) := by
  intro lo hl hr; loop_step hl hr h lo

theorem XorSpec.shorter (h : XorSpec o lt ((l.2, r.2) :: rt)) (h1 : l.1 = r.1) (h2 : l.2 < r.2) :
    XorSpec o (l :: lt) (r :: rt) := by
  intro lo hl hr; loop_step hl hr h lo

end

theorem xorLoop_spec (l r : List Rng) : ∀ lo, CanonFrom lo l → CanonFrom lo r →
    CanonFrom lo (xorLoop l r) ∧ ∀ x, mem x (xorLoop l r) ↔ (mem x l ↔ ¬ mem x r) := by
  -- Cases in the order of the `if`s of `xorLoop`, after the two for an empty operand: heads that touch (3, 4); a head
  -- that ends before the other one starts (5, 6); then the heads overlap, in three groups by their ends (equal: 7-9, `l`
  -- ends first: 10-12, `r` ends first: 13-15), each split by their starts (equal, `l` first, `r` first).
  show XorSpec (xorLoop l r) l r
  fun_induction xorLoop l r with
  | case1 r => intro lo _ hr; simp; exact hr
  | case2 l lt => intro lo hl _; simp; exact hl
  | case3 l lt r rt h1 ih => exact ih.join h1
  | case4 l lt r rt h1 h2 ih => exact (ih.symm.join h2).symm
  | case5 l lt r rt h1 h2 h3 ih => exact ih.before h3
  | case6 l lt r rt h1 h2 h3 h4 ih => exact (ih.symm.before h4).symm
  | case7 l lt r rt h1 h2 h3 h4 h5 h6 ih => exact ih.same h6 h5
  | case8 l lt r rt h1 h2 h3 h4 h5 h6 h7 ih => exact .cut (.same ih rfl h5) h7 h3 h1
  | case9 l lt r rt h1 h2 h3 h4 h5 h6 h7 ih =>
    exact .symm (.cut (.same ih.symm rfl h5.symm) ((Nat.lt_or_gt_of_ne h6).resolve_left h7) h4 h2)
  | case10 l lt r rt h1 h2 h3 h4 h5 h6 h7 ih => exact ih.shorter h7 h6
  | case11 l lt r rt h1 h2 h3 h4 h5 h6 h7 h8 ih => exact .cut (.shorter ih rfl h6) h8 h3 h1
  | case12 l lt r rt h1 h2 h3 h4 h5 h6 h7 h8 ih =>
    exact .symm (.cut (.symm (.shorter ih rfl h6)) ((Nat.lt_or_gt_of_ne h7).resolve_left h8) h4 h2)
  | case13 l lt r rt h1 h2 h3 h4 h5 h6 h7 ih =>
    exact (ih.symm.shorter h7.symm ((Nat.lt_or_gt_of_ne h5).resolve_left h6)).symm
  | case14 l lt r rt h1 h2 h3 h4 h5 h6 h7 h8 ih =>
    exact .cut (.symm (.shorter ih.symm rfl ((Nat.lt_or_gt_of_ne h5).resolve_left h6))) h8 h3 h1
  | case15 l lt r rt h1 h2 h3 h4 h5 h6 h7 h8 ih =>
    exact .symm (.cut (.shorter ih.symm rfl ((Nat.lt_or_gt_of_ne h5).resolve_left h6))
      ((Nat.lt_or_gt_of_ne h7).resolve_left h8) h4 h2)

set_option hygiene false in
macro "loop_case2" ih:ident a:term:max b:term:max : tactic => `(tactic| (
  have hih := $ih $a $b (by canon_tac) (by canon_tac)
  refine ⟨?_, fun x => ?_⟩
  · have hih1 := hih.1; canon_tac
  · have lbl := @CanonFrom.lb _ _ hl3 x
    have lbr := @CanonFrom.lb _ _ hr3 x
    simp [hih.2]
    grind))

theorem minusLoop_spec (l r : List Rng) : ∀ a b, CanonFrom a l → CanonFrom b r →
    CanonFrom a (minusLoop l r) ∧ ∀ x, mem x (minusLoop l r) ↔ (mem x l ∧ ¬ mem x r) := by
  -- Cases in the order of the `if`s of `minusLoop`, after the two for an empty operand: `l` lies before `r` and is
  -- emitted (3); `r` lies before `l` and goes, with all of `rt` that ends at or before `l.1` (4); `l` ends inside `r`: its
  -- part before `r.1` is emitted (5), or there is none and `lt` is skipped up to `r.2` (6); `r` ends inside `l`, which is
  -- cut down to `(r.2, l.2)`, nothing (7) or its part before `r.1` (8) being emitted.  Bounds as in `interLoop_spec`, and
  -- its new start `r.2` for `l` cut down.
  fun_induction minusLoop l r with
  | case1 r => intro a b _ hr; simp
  | case2 l lt => intro a b hl _; simp; exact hl
  | case3 l lt r rt h1 ih => intro a b hl hr; loop_step hl hr ih (l.2 + 1) b
  | case4 l lt r rt h1 h2 ih =>
    intro a b hl hr
    have ⟨hk, c1, c2⟩ := consumeWhileEndLe_spec l.1 rt (r.2 + 1) hr.tail
    loop_step hl hr ih a (r.2 + 1)
  | case5 l lt r rt h1 h2 h3 h4 ih => intro a b hl hr; loop_step hl hr ih (l.2 + 1) b
  | case6 l lt r rt h1 h2 h3 h4 ih =>
    intro a b hl hr
    have ⟨hk, c1, c2⟩ := consumeWhileEndLe_spec r.2 lt (l.2 + 1) hl.tail
    loop_step hl hr ih (l.2 + 1) b
  | case7 l lt r rt h1 h2 h3 h4 ih => intro a b hl hr; loop_step hl hr ih r.2 (r.2 + 1)
  | case8 l lt r rt h1 h2 h3 h4 ih => intro a b hl hr; loop_step hl hr ih r.2 (r.2 + 1)

theorem minusLoop_nil_right (l : List Rng) : minusLoop l [] = l := by
  cases l <;> simp [minusLoop]

theorem minusLoop_eq_left {l r : List Rng} (hl : Canon l) (hr : Canon r) (h : ∀ x, mem x l → ¬ mem x r) :
    minusLoop l r = l :=
  have sp := minusLoop_spec l r 0 0 hl hr
  Canon.ext sp.1 hl fun x => (sp.2 x).trans ⟨And.left, fun hx => ⟨hx, h x hx⟩⟩

theorem interLoop_eq_nil {l r : List Rng} (hl : Canon l) (hr : Canon r) (h : ∀ x, mem x l → ¬ mem x r) :
    interLoop l r = [] :=
  have sp := interLoop_spec l r 0 0 hl hr
  sp.1.eq_nil fun x hx => h x ((sp.2 x).1 hx).1 ((sp.2 x).1 hx).2

theorem Src.HintOk.lt_last {s : Src} (hs : s.HintOk) {up : Rng} (h : s.last = some up) {x : Nat}
    (hx : mem x s.items) : x < up.2 :=
  BoundedBy.lt (hs.1 up h).2 hx

theorem endLe_mem (s : Src) (hs : s.HintOk) {k x : Nat} (h : endLe s.last k = true) (hx : mem x s.items) :
    x < k := by
  unfold endLe at h
  cases hlast : s.last with
  | none => simp [hlast] at h
  | some up => simp [hlast] at h; exact Nat.lt_of_lt_of_le (hs.lt_last hlast hx) h

/-- The quick test of `and` and `minus` (one operand announces an end that is not beyond the other's first start)
    fires on disjoint operands only. -/
theorem disjoint_of_endLe {l r : Src} (hl : l.HintOk) (hr : r.HintOk) (cl : Canon l.items) (cr : Canon r.items)
    {l0 r0 : Rng} {lt rt : List Rng} (h1 : l.items = l0 :: lt) (h2 : r.items = r0 :: rt)
    (hq : (endLe l.last r0.1 || endLe r.last l0.1) = true) (x : Nat) (xl : mem x l.items) : ¬ mem x r.items := by
  intro xr
  have hl0 : l0.1 ≤ x := CanonFrom.head_le (h1 ▸ cl) (h1 ▸ xl)
  have hr0 : r0.1 ≤ x := CanonFrom.head_le (h2 ▸ cr) (h2 ▸ xr)
  rcases Bool.or_eq_true_iff.1 hq with hq | hq
  · exact Nat.not_lt.2 hr0 (endLe_mem l hl hq xl)
  · exact Nat.not_lt.2 hl0 (endLe_mem r hr hq xr)

/-- `MinusRangeIter` (repaired): whatever consistent `peek_last` hints the operands advertise, the
    stream is the plain loop's. -/
theorem minusItems_eq (l r : Src) (hl : l.HintOk) (hr : r.HintOk) (cl : Canon l.items) (cr : Canon r.items) :
    minusItems l r = minusLoop l.items r.items := by
  unfold minusItems
  split
  · rename_i h; simp [h, minusLoop]
  · rename_i l0 lt h1 h2; rw [h1, h2, minusLoop_nil_right]
  · rename_i l0 lt r0 rt h1 h2
    split
    · rename_i hq
      rw [← h1]
      exact (minusLoop_eq_left cl cr (disjoint_of_endLe hl hr cl cr h1 h2 hq)).symm
    · rw [h1, h2]

/-- `AndRangeIter`: quick rejections are no-ops under consistent hints. -/
theorem andItems_eq (l r : Src) (hl : l.HintOk) (hr : r.HintOk) (cl : Canon l.items) (cr : Canon r.items) :
    andItems l r = interLoop l.items r.items := by
  unfold andItems
  split
  · rename_i h; simp [h, interLoop]
  · rename_i l0 lt h1 h2; rw [h1, h2]; simp [interLoop]
  · rename_i l0 lt r0 rt h1 h2
    split
    · rename_i hq
      exact (interLoop_eq_nil cl cr (disjoint_of_endLe hl hr cl cr h1 h2 hq)).symm
    · rw [h1, h2]

/-- `OrRangeIter`: the `DisjointRightFirst` concatenation equals the regular merge loop. -/
theorem orItems_eq (l r : Src) (hr : r.HintOk) (cl : Canon l.items) (cr : Canon r.items) :
    orItems l r = unionLoop l.items r.items := by
  unfold orItems
  split
  · rename_i lastRight l0 lt h1 h2
    split
    · rename_i hq
      refine (unionLoop_eq_of_sem cl cr ?_ fun x => by rw [mem_append, or_comm]).symm
      rw [h2] at cl ⊢
      exact cr.append cl.from_head (Nat.zero_le _) fun x hx => Nat.lt_of_le_of_lt (hr.lt_last h1 hx) hq
    · rfl
  · rfl

theorem andSrc_items (l r : Src) (hl : l.HintOk) (hr : r.HintOk) (cl : Canon l.items) (cr : Canon r.items) :
    (andSrc l r).items = intersection l.items r.items :=
  (andItems_eq l r hl hr cl cr).trans (intersection_eq_interLoop _ _ cl cr).symm

theorem orSrc_items (l r : Src) (hr : r.HintOk) (cl : Canon l.items) (cr : Canon r.items) :
    (orSrc l r).items = union l.items r.items :=
  (orItems_eq l r hr cl cr).trans (union_eq_unionLoop _ _ cl cr).symm

theorem minusSrc_items (l r : Src) (hl : l.HintOk) (hr : r.HintOk) (cl : Canon l.items) (cr : Canon r.items) :
    (minusSrc l r).items = difference l.items r.items :=
  (minusItems_eq l r hl hr cl cr).trans
    (Canon.eq_of_spec (minusLoop_spec l.items r.items 0 0 cl cr) (difference_spec l.items r.items cl cr))

theorem notSrc_items (ub : Nat) (s : Src) : (notSrc ub s).items = complement ub s.items := by
  unfold notSrc; split <;> rfl

theorem notSrc_depth (ub : Nat) (s : Src) : (notSrc ub s).depth = s.depth := by
  unfold notSrc; split <;> rfl

end Moc
