/-
  `mem` and `CanonFrom` of Model/Basic.lean.  The ranges of a canonical list are the connected components of the set
  it covers (`canon_gap`, `covered_interval_sub`), so the set determines the list (`CanonFrom.ext`).
-/
import MocVerif.Model.Ranges
import MocVerif.Lemmas.ListFacts

namespace Moc

@[simp] theorem mem_nil (x : Nat) : mem x [] ↔ False := Iff.rfl
@[simp] theorem mem_cons (x : Nat) (r : Rng) (t : List Rng) :
    mem x (r :: t) ↔ (r.1 ≤ x ∧ x < r.2) ∨ mem x t := Iff.rfl

theorem mem_iff_exists (x : Nat) (rs : List Rng) : mem x rs ↔ ∃ r ∈ rs, r.1 ≤ x ∧ x < r.2 := by
  induction rs with
  | nil => simp
  | cons r t ih => simp [ih]

theorem exists_mem_range {Q : Nat → Prop} (l : List Rng) :
    (∃ r ∈ l, ∃ y, r.1 ≤ y ∧ y < r.2 ∧ Q y) ↔ ∃ y, mem y l ∧ Q y := by
  constructor
  · rintro ⟨r, hr, y, h1, h2, hq⟩
    exact ⟨y, (mem_iff_exists y l).2 ⟨r, hr, h1, h2⟩, hq⟩
  · rintro ⟨y, hy, hq⟩
    obtain ⟨r, hr, h1, h2⟩ := (mem_iff_exists y l).1 hy
    exact ⟨r, hr, y, h1, h2, hq⟩

theorem mem_pred_end {l : List Rng} {r : Rng} (hr : r ∈ l) (h : r.1 < r.2) : mem (r.2 - 1) l :=
  (mem_iff_exists _ _).2 ⟨r, hr, Nat.le_sub_one_of_lt h, Nat.sub_one_lt (Nat.ne_of_gt (Nat.zero_lt_of_lt h))⟩

theorem BoundedBy.lt {ub : Nat} {l : List Rng} (hb : BoundedBy ub l) {x : Nat} (hx : mem x l) : x < ub := by
  obtain ⟨r, hr, _, h2⟩ := (mem_iff_exists _ _).1 hx
  exact Nat.lt_of_lt_of_le h2 (hb r hr)

theorem mem_map_iff {α : Type} (f : α → Rng) (l : List α) (x : Nat) :
    mem x (l.map f) ↔ ∃ r ∈ l, (f r).1 ≤ x ∧ x < (f r).2 := by
  rw [mem_iff_exists, exists_mem_map]

theorem mem_append (x : Nat) (a b : List Rng) : mem x (a ++ b) ↔ mem x a ∨ mem x b := by
  induction a with
  | nil => simp
  | cons r t ih => simp [ih, or_assoc]

theorem mem_of_perm {l l' : List Rng} (p : l.Perm l') (x : Nat) : mem x l ↔ mem x l' := by
  rw [mem_iff_exists, mem_iff_exists]
  exact exists_mem_congr (fun _ => p.mem_iff) _

theorem mem_flatMap {α : Type} (f : α → List Rng) (l : List α) (x : Nat) :
    mem x (l.flatMap f) ↔ ∃ a ∈ l, mem x (f a) := by
  induction l with
  | nil => simp
  | cons a t ih => simp [mem_append, ih]

@[simp] theorem canonFrom_nil (lo : Nat) : CanonFrom lo [] ↔ True := Iff.rfl
@[simp] theorem canonFrom_cons (lo : Nat) (r : Rng) (t : List Rng) :
    CanonFrom lo (r :: t) ↔ lo ≤ r.1 ∧ r.1 < r.2 ∧ CanonFrom (r.2 + 1) t := Iff.rfl

theorem CanonFrom.mono {lo lo' : Nat} {rs : List Rng} (h : CanonFrom lo rs) (hle : lo' ≤ lo) :
    CanonFrom lo' rs := by
  cases rs with
  | nil => trivial
  | cons r t => exact ⟨Nat.le_trans hle h.1, h.2.1, h.2.2⟩

theorem CanonFrom.map {f : Nat → Nat} (hf : ∀ a b, a < b → f a < f b) :
    ∀ {lo : Nat} {rs : List Rng}, CanonFrom lo rs → CanonFrom (f lo) (rs.map fun r => (f r.1, f r.2))
  | _, [], _ => trivial
  | _, _ :: _, ⟨h1, h2, h3⟩ =>
    ⟨(Nat.eq_or_lt_of_le h1).elim (· ▸ Nat.le_refl _) (fun h => Nat.le_of_lt (hf _ _ h)), hf _ _ h2,
      (CanonFrom.map hf h3).mono (hf _ _ (Nat.lt_succ_self _))⟩

theorem CanonFrom.lb {lo : Nat} {rs : List Rng} (h : CanonFrom lo rs) {x : Nat} (hx : mem x rs) :
    lo ≤ x := by
  induction rs generalizing lo with
  | nil => exact hx.elim
  | cons r t ih =>
    rcases hx with hx | hx
    · exact Nat.le_trans h.1 hx.1
    · exact Nat.le_trans (Nat.le_trans h.1 (Nat.le_of_lt h.2.1)) (Nat.le_of_succ_le (ih h.2.2 hx))

theorem CanonFrom.succ_of_not_mem {lo : Nat} {o : List Rng} (h : CanonFrom lo o) (hx : ¬ mem lo o) :
    CanonFrom (lo + 1) o := by
  cases o with
  | nil => trivial
  | cons r t =>
    exact ⟨Nat.lt_of_le_of_ne h.1 fun e => hx (Or.inl ⟨e ▸ Nat.le_refl _, e ▸ h.2.1⟩), h.2.1, h.2.2⟩

theorem CanonFrom.tail {lo : Nat} {r : Rng} {t : List Rng} (h : CanonFrom lo (r :: t)) :
    CanonFrom (r.2 + 1) t := h.2.2

theorem CanonFrom.from_head {lo : Nat} {r : Rng} {t : List Rng} (h : CanonFrom lo (r :: t)) :
    CanonFrom r.1 (r :: t) := ⟨Nat.le_refl _, h.2.1, h.2.2⟩

theorem CanonFrom.head_le {lo : Nat} {r : Rng} {t : List Rng} (h : CanonFrom lo (r :: t)) {x : Nat}
    (hx : mem x (r :: t)) : r.1 ≤ x := h.from_head.lb hx

theorem CanonFrom.append {lo k : Nat} {a b : List Rng} (ha : CanonFrom lo a) (hb : CanonFrom k b) (hlo : lo ≤ k)
    (h : ∀ x, mem x a → x + 1 < k) : CanonFrom lo (a ++ b) := by
  induction a generalizing lo with
  | nil => exact hb.mono hlo
  | cons r t ih =>
    have := h (r.2 - 1) (mem_pred_end List.mem_cons_self ha.2.1)
    rw [Nat.sub_add_cancel (Nat.zero_lt_of_lt ha.2.1)] at this
    exact ⟨ha.1, ha.2.1, ih ha.2.2 this fun x hx => h x (Or.inr hx)⟩

theorem canon_gap : ∀ (l : List Rng) (lo : Nat), CanonFrom lo l → ∀ r ∈ l,
    lo ≤ r.1 ∧ r.1 < r.2 ∧ ¬ mem r.2 l ∧ (0 < r.1 → ¬ mem (r.1 - 1) l) := by
  intro l
  induction l with
  | nil => intro _ _ r hr; cases hr
  | cons r0 t ih =>
    intro lo ⟨h1, h2, h3⟩ r hr
    cases hr with
    | head =>
      refine ⟨h1, h2, fun hm => ?_, fun hp hm => ?_⟩
      · rcases hm with hm | hm
        · exact Nat.lt_irrefl _ hm.2
        · exact Nat.not_succ_le_self _ (h3.lb hm)
      · rcases hm with hm | hm
        · exact Nat.not_le_of_gt (Nat.sub_one_lt (Nat.ne_of_gt hp)) hm.1
        · exact Nat.not_le_of_gt (Nat.lt_of_le_of_lt (Nat.sub_le _ _) (Nat.lt_succ_of_lt h2)) (h3.lb hm)
    | tail _ hm =>
      obtain ⟨i1, i2, i3, i4⟩ := ih _ h3 r hm
      refine ⟨Nat.le_trans h1 (Nat.le_trans (Nat.le_of_lt h2) (Nat.le_of_succ_le i1)), i2, fun hx => ?_, fun hp hx => ?_⟩
      · rcases hx with hx | hx
        · exact Nat.not_le_of_gt (Nat.lt_trans hx.2 (Nat.lt_of_succ_le i1)) (Nat.le_of_lt i2)
        · exact i3 hx
      · rcases hx with hx | hx
        · exact Nat.not_le_of_gt hx.2 (Nat.le_sub_one_of_lt (Nat.lt_of_succ_le i1))
        · exact i4 hp hx

theorem canon_nonempty {lo : Nat} {l : List Rng} (h : CanonFrom lo l) : ∀ c ∈ l, c.1 < c.2 :=
  fun c hc => (canon_gap l lo h c hc).2.1

theorem CanonFrom.start_ge {lo : Nat} {l : List Rng} (h : CanonFrom lo l) {r : Rng} (hr : r ∈ l) : lo ≤ r.1 :=
  (canon_gap l lo h r hr).1

theorem covered_interval_sub {l : List Rng} {lo : Nat} (hc : CanonFrom lo l) {r : Rng} (hr : r ∈ l) {a b y : Nat}
    (h : ∀ x, a ≤ x → x < b → mem x l) (hy : a ≤ y ∧ y < b) (hyr : r.1 ≤ y ∧ y < r.2) : r.1 ≤ a ∧ b ≤ r.2 := by
  obtain ⟨-, -, g3, g4⟩ := canon_gap l lo hc r hr
  exact ⟨Nat.le_of_not_lt fun hn => g4 (Nat.zero_lt_of_lt hn) (h (r.1 - 1) (Nat.le_sub_one_of_lt hn)
      (Nat.lt_of_le_of_lt (Nat.le_trans (Nat.sub_le _ _) hyr.1) hy.2)),
    Nat.le_of_not_lt fun hn => g3 (h r.2 (Nat.le_trans hy.1 (Nat.le_of_lt hyr.2)) hn)⟩

theorem covered_iff_one_range (l : List Rng) (lo : Nat) (h : CanonFrom lo l) (a b : Nat) (hab : a < b) :
    (∀ y, a ≤ y → y < b → mem y l) ↔ ∃ r ∈ l, r.1 ≤ a ∧ b ≤ r.2 := by
  constructor
  · intro hall
    obtain ⟨r, hr, har⟩ := (mem_iff_exists a l).1 (hall a (Nat.le_refl _) hab)
    exact ⟨r, hr, covered_interval_sub h hr hall ⟨Nat.le_refl _, hab⟩ har⟩
  · rintro ⟨r, hr, h1, h2⟩ y hy1 hy2
    exact (mem_iff_exists y l).2 ⟨r, hr, Nat.le_trans h1 hy1, Nat.lt_of_lt_of_le hy2 h2⟩

theorem CanonFrom.drop {lo : Nat} {l : List Rng} (h : CanonFrom lo l) (k : Nat) : CanonFrom lo (l.drop k) := by
  induction k generalizing lo l with
  | zero => exact h
  | succ k ih =>
    cases l with
    | nil => trivial
    | cons r t => exact ih (h.2.2.mono (Nat.le_succ_of_le (Nat.le_trans h.1 (Nat.le_of_lt h.2.1))))

theorem canon_witness {lo : Nat} {l : List Rng} (h : CanonFrom lo l) (hne : l ≠ []) : ∃ x, mem x l := by
  cases l with
  | nil => exact absurd rfl hne
  | cons r t => exact ⟨r.1, Or.inl ⟨Nat.le_refl _, h.2.1⟩⟩

theorem CanonFrom.eq_nil {lo : Nat} {o : List Rng} (h : CanonFrom lo o) (he : ∀ x, ¬ mem x o) : o = [] :=
  Decidable.byContradiction fun hne => (canon_witness h hne).elim he

/-- The last range of a non-empty list, as `getLast?` finds it and as `lastEndD` does. -/
theorem exists_getLast (r : Rng) (t : List Rng) :
    ∃ c ∈ r :: t, (r :: t).getLast? = some c ∧ c.2 = lastEndD r.2 t := by
  induction t generalizing r with
  | nil => exact ⟨r, List.mem_cons_self, rfl, rfl⟩
  | cons s t ih =>
    obtain ⟨c, hc, h1, h2⟩ := ih s
    exact ⟨c, List.mem_cons_of_mem _ hc, List.getLast?_cons_cons.trans h1, h2⟩

theorem CanonFrom.ends_le {lo : Nat} {r : Rng} {t : List Rng} (h : CanonFrom lo (r :: t)) :
    BoundedBy (lastEndD r.2 t) (r :: t) := by
  induction t generalizing lo r with
  | nil => exact fun c hc => Nat.le_of_eq (congrArg (·.2) (List.mem_singleton.1 hc))
  | cons s t ih =>
    have hs := ih h.2.2
    refine List.forall_mem_cons.2 ⟨?_, hs⟩
    exact Nat.le_of_lt (Nat.lt_of_lt_of_le (Nat.lt_of_succ_le h.2.2.1)
      (Nat.le_trans (Nat.le_of_lt h.2.2.2.1) (hs s List.mem_cons_self)))

theorem ends_le_getLast? (l : List Rng) (lo : Nat) (hc : CanonFrom lo l) :
    ∀ r, l.getLast? = some r → ∀ c ∈ l, c.2 ≤ r.2 := by
  cases l with
  | nil => exact fun _ h => nomatch h
  | cons a t =>
    intro r h
    obtain ⟨c, -, h1, h2⟩ := exists_getLast a t
    cases h.symm.trans h1
    exact h2 ▸ hc.ends_le

theorem boundedBy_iff (ub : Nat) (l : List Rng) : ∀ lo, CanonFrom lo l →
    (BoundedBy ub l ↔ ∀ x, mem x l → x < ub) := by
  intro lo hcan
  constructor
  · exact fun hb x hx => hb.lt hx
  · exact fun h r hr => Nat.le_of_pred_lt (h (r.2 - 1) (mem_pred_end hr (canon_nonempty hcan r hr)))

theorem getLast?_end_iff {o : List Rng} (ho : Canon o) (M : Nat) :
    (∃ c, o.getLast? = some c ∧ c.2 = M) ↔ 0 < M ∧ mem (M - 1) o ∧ BoundedBy M o := by
  constructor
  · rintro ⟨c, hc, rfl⟩
    have hm := List.mem_of_getLast? hc
    have hne := canon_nonempty ho c hm
    exact ⟨Nat.zero_lt_of_lt hne, mem_pred_end hm hne, ends_le_getLast? o 0 ho c hc⟩
  · rintro ⟨-, hm, hb⟩
    obtain ⟨c, hc, -, h2⟩ := (mem_iff_exists _ _).1 hm
    cases hz : o.getLast? with
    | none => rw [List.getLast?_eq_none_iff] at hz; subst hz; cases hc
    | some z =>
      -- `M - 1 < c.2 ≤ z.2 ≤ M`
      exact ⟨z, rfl, Nat.le_antisymm (hb z (List.mem_of_getLast? hz))
        (Nat.le_trans (Nat.le_of_pred_lt h2) (ends_le_getLast? o 0 ho z hz c hc))⟩

theorem canonFromB_iff (lo : Nat) (rs : List Rng) : canonFromB lo rs = true ↔ CanonFrom lo rs := by
  induction rs generalizing lo with
  | nil => simp [canonFromB]
  | cons r t ih => simp [canonFromB, ih, and_assoc]

theorem canonB_iff (rs : List Rng) : canonB rs = true ↔ Canon rs := canonFromB_iff 0 rs

instance (lo : Nat) (rs : List Rng) : Decidable (CanonFrom lo rs) :=
  decidable_of_iff _ (canonFromB_iff lo rs)
instance (rs : List Rng) : Decidable (Canon rs) := inferInstanceAs (Decidable (CanonFrom 0 rs))

theorem CanonFrom.head_le_head {lo lo' : Nat} {r s : Rng} {ta tb : List Rng} (ha : CanonFrom lo (r :: ta))
    (hb : CanonFrom lo' (s :: tb)) (h : ∀ x, mem x (r :: ta) ↔ mem x (s :: tb)) :
    s.1 ≤ r.1 ∧ (r.1 = s.1 → ¬ r.2 < s.2) := by
  refine ⟨hb.head_le ((h _).1 (Or.inl ⟨Nat.le_refl _, ha.2.1⟩)), fun e hlt => ?_⟩
  -- otherwise `r.2` is covered by `s`, but by neither `r` nor the tail after `r`
  rcases (h r.2).2 (Or.inl ⟨e ▸ Nat.le_of_lt ha.2.1, hlt⟩) with h' | h'
  · exact Nat.lt_irrefl _ h'.2
  · exact Nat.not_succ_le_self _ (ha.2.2.lb h')

theorem CanonFrom.ext {lo : Nat} {a b : List Rng} (ha : CanonFrom lo a) (hb : CanonFrom lo b)
    (h : ∀ x, mem x a ↔ mem x b) : a = b := by
  induction a generalizing lo b with
  | nil => exact (hb.eq_nil fun x hx => (h x).2 hx).symm
  | cons r ta ih =>
    cases b with
    | nil => exact ha.eq_nil fun x hx => (h x).1 hx
    | cons s tb =>
      have ⟨a1, a2⟩ := ha.head_le_head hb h
      have ⟨b1, b2⟩ := hb.head_le_head ha fun x => (h x).symm
      have e : r.1 = s.1 := Nat.le_antisymm b1 a1
      obtain rfl : r = s :=
        Prod.ext e (Nat.le_antisymm (Nat.le_of_not_lt (b2 e.symm)) (Nat.le_of_not_lt (a2 e)))
      congr 1
      -- beyond `r.2` both lists cover what their tails cover
      refine ih ha.2.2 hb.2.2 fun x => ⟨fun hx => ?_, fun hx => ?_⟩
      · exact ((h x).1 (Or.inr hx)).resolve_left fun hr => Nat.lt_irrefl _ (Nat.lt_trans (ha.2.2.lb hx) hr.2)
      · exact ((h x).2 (Or.inr hx)).resolve_left fun hr => Nat.lt_irrefl _ (Nat.lt_trans (hb.2.2.lb hx) hr.2)

theorem Canon.ext {a b : List Rng} (ha : Canon a) (hb : Canon b)
    (h : ∀ x, mem x a ↔ mem x b) : a = b := CanonFrom.ext ha hb h

theorem Canon.eq_of_spec {a b : List Rng} {P : Nat → Prop} (ha : Canon a ∧ ∀ x, mem x a ↔ P x)
    (hb : Canon b ∧ ∀ x, mem x b ↔ P x) : a = b :=
  Canon.ext ha.1 hb.1 fun x => (ha.2 x).trans (hb.2 x).symm

/-- `CanonFrom lo l` from the `CanonFrom` hypotheses in context: the same list from a lower bound, or a new head in
    front of a tail that is in context; the conditions on the bounds go to `omega`. -/
macro "canon_tac" : tactic =>
  `(tactic| first
      | assumption
      | exact CanonFrom.mono (by assumption) (by omega)
      | exact ⟨by first | assumption | ((try simp only []); omega), by (try simp only []); omega,
          by first | assumption | exact CanonFrom.mono (by assumption) (by omega)⟩)

end Moc
