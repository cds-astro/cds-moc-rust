/-
  The token codec (C07, C12).  Writer then reader: the validation loop gives the items back bucket by bucket, a
  permutation of what was written, and the last stage does not see the order (`decodeToks_encodeToks`).  Reader
  alone: what the loop accepts lies inside the domain, and on a sorted list the adjacent-overlap test decides
  disjointness.
-/
import MocVerif.Model.Codec
import MocVerif.Lemmas.SetOps

namespace Moc.Codec
open Moc

def ItemOk (q : Qty) (w : Nat) (it : Item) : Prop :=
  it.d ≤ q.maxDepth w ∧ it.d ≤ 255 ∧ it.s < it.e ∧ it.e ≤ q.nCells it.d

theorem nCells_mono (q : Qty) {a b : Nat} (h : a ≤ b) : q.nCells a ≤ q.nCells b := by
  unfold Qty.nCells
  rw [Nat.shiftLeft_eq, Nat.shiftLeft_eq]
  exact Nat.mul_le_mul_left _ (Nat.pow_le_pow_right (by decide) (Nat.mul_le_mul_left _ h))

theorem ItemOk.fits {q : Qty} {w d : Nat} {it : Item} (h : ItemOk q w it) (hd : it.d ≤ d) (hfit : q.nCells d < 2 ^ w) :
    it.s < it.e ∧ it.e < 2 ^ w :=
  ⟨h.2.2.1, Nat.lt_of_le_of_lt (Nat.le_trans h.2.2.2 (nCells_mono q hd)) hfit⟩

def bucketed (items : List Item) : Nat → Nat → List Item
  | _, 0 => []
  | d, n + 1 => bucket items d ++ bucketed items (d + 1) n

theorem mem_bucket {items : List Item} {d : Nat} {it : Item} :
    it ∈ bucket items d ↔ it ∈ items ∧ it.d = d := by
  simp [bucket, List.mem_filter]

theorem bucketed_perm (items : List Item) : ∀ (n d : Nat),
    (bucketed items d n).Perm (items.filter fun it => decide (d ≤ it.d ∧ it.d < d + n)) := by
  intro n
  induction n with
  | zero =>
    intro d
    rw [List.filter_eq_nil_iff.2 fun it _ h => Nat.not_lt.2 (of_decide_eq_true h).1 (of_decide_eq_true h).2]
    exact .refl _
  | succ n ih =>
    intro d
    -- the items of depth in `[d, d + n + 1)` are those of depth `d` followed by those of depth in `[d + 1, d + 1 + n)`
    have p := List.filter_append_perm (fun it : Item => it.d == d)
      (items.filter fun it => decide (d ≤ it.d ∧ it.d < d + (n + 1)))
    have e1 : ∀ it : Item, (it.d == d && decide (d ≤ it.d ∧ it.d < d + (n + 1))) = (it.d == d) := fun it =>
      Bool.and_eq_left_iff_imp.2 fun h => decide_eq_true
        (eq_of_beq h ▸ ⟨Nat.le_refl _, Nat.lt_add_of_pos_right (Nat.succ_pos n)⟩)
    have e2 : ∀ it : Item, (!(it.d == d) && decide (d ≤ it.d ∧ it.d < d + (n + 1)))
        = decide (d + 1 ≤ it.d ∧ it.d < d + 1 + n) := fun it => by
      rw [Nat.succ_add d n, Bool.eq_iff_iff, Bool.and_eq_true, Bool.not_eq_true', beq_eq_false_iff_ne,
        decide_eq_true_eq, decide_eq_true_eq, ← and_assoc]
      exact and_congr_left fun _ =>
        ⟨fun h => Nat.lt_of_le_of_ne h.2 (Ne.symm h.1), fun h => ⟨Nat.ne_of_gt h, Nat.le_of_lt h⟩⟩
    simp only [List.filter_filter, e1, e2] at p
    exact (List.Perm.append_left _ (ih (d + 1))).trans p

theorem mem_bucketed {items : List Item} {it : Item} : ∀ (n d : Nat),
    it ∈ bucketed items d n ↔ it ∈ items ∧ d ≤ it.d ∧ it.d < d + n := by
  intro n d
  rw [(bucketed_perm items n d).mem_iff, List.mem_filter, decide_eq_true_eq]

/-! Each clause of `loopToks` unfolds by itself, so an equation below is `if_pos` / `if_neg` for the branch taken. -/

theorem loopToks_cell (q : Qty) (w cur dm i : Nat) (ts : List Tok) (acc : List Item) :
    loopToks q w cur dm (.cell i :: ts) acc = loopToks q w cur dm (.range i (i + 1) :: ts) acc := by
  by_cases h : i ≥ q.nCells cur
  · exact (if_pos h).trans (if_pos (Or.inl (Nat.lt_succ_of_le h))).symm
  · exact (if_neg h).trans (if_neg (by omega)).symm

theorem loopToks_range (q : Qty) (w cur dm s e : Nat) (ts : List Tok) (acc : List Item) :
    loopToks q w cur dm (.range s e :: ts) acc
      = if s < e ∧ e ≤ q.nCells cur then loopToks q w cur dm ts (⟨cur, s, e⟩ :: acc) else .error .index := by
  by_cases h : s < e ∧ e ≤ q.nCells cur
  · rw [if_pos h]; exact if_neg fun h' => h'.elim (Nat.not_lt.2 h.2) (Nat.not_le.2 h.1)
  · rw [if_neg h]; exact if_pos (by omega)

theorem loopToks_itemTok (q : Qty) (w cur dm : Nat) (it : Item) (ts : List Tok) (acc : List Item) :
    loopToks q w cur dm (itemTok it :: ts) acc = loopToks q w cur dm (.range it.s it.e :: ts) acc := by
  unfold itemTok
  split
  next h => rw [h, loopToks_cell]
  · rfl

theorem loopToks_depth {q : Qty} {w k : Nat} (h : k ≤ q.maxDepth w ∧ k ≤ 255) (cur dm : Nat) (ts : List Tok)
    (acc : List Item) : loopToks q w cur dm (.depth k :: ts) acc = loopToks q w k (max dm k) ts acc :=
  (if_neg (Nat.not_lt.2 h.2)).trans (if_neg (Nat.not_lt.2 h.1))

theorem loop_bucket (q : Qty) (w cur dm : Nat) (b : List Item) (rest : List Tok) (acc : List Item)
    (hb : ∀ it ∈ b, it.d = cur ∧ ItemOk q w it) :
    loopToks q w cur dm (b.map itemTok ++ rest) acc = loopToks q w cur dm rest (b.reverse ++ acc) := by
  induction b generalizing acc with
  | nil => rfl
  | cons it t ih =>
    obtain ⟨rfl, _, _, hse, hen⟩ := hb it List.mem_cons_self
    rw [List.map_cons, List.cons_append, loopToks_itemTok, loopToks_range, if_pos ⟨hse, hen⟩,
      ih _ fun x hx => hb x (List.mem_cons_of_mem _ hx), List.reverse_cons, List.append_assoc]
    rfl

/-- `dm` is the running maximum of the depths met; it has reached `dmax` when no bucket is left (`n = 0`). -/
theorem loop_encodeFrom (q : Qty) (w dmax : Nat) (items : List Item)
    (hmax : dmax ≤ q.maxDepth w ∧ dmax ≤ 255) (hok : ∀ it ∈ items, ItemOk q w it) :
    ∀ (n d cur dm : Nat) (acc : List Item), d + n = dmax + 1 → dm ≤ dmax → (n = 0 → dm = dmax) →
      loopToks q w cur dm (encodeFrom items dmax d n) acc
        = .ok (dmax, acc.reverse ++ bucketed items d n) := by
  intro n
  induction n with
  | zero =>
    intro d cur dm acc _ _ h0
    rw [encodeFrom, bucketed, loopToks, h0 rfl, List.append_nil]
  | succ n ih =>
    intro d cur dm acc hdn hdm _
    have hn : d + n = dmax := Nat.succ.inj hdn
    have hn' : d + 1 + n = dmax + 1 := (Nat.succ_add d n).trans hdn
    have hd : d ≤ dmax := Nat.le.intro hn
    rw [encodeFrom, bucketed]
    by_cases hemp : ((bucket items d).isEmpty && d != dmax) = true
    · have h := Bool.and_eq_true_iff.1 hemp
      rw [if_pos hemp, List.isEmpty_iff.1 h.1]
      exact ih (d + 1) cur dm acc hn' hdm fun h0 => absurd (h0 ▸ hn : d + 0 = dmax) (bne_iff_ne.1 h.2)
    · rw [if_neg hemp, List.cons_append, loopToks_depth ⟨Nat.le_trans hd hmax.1, Nat.le_trans hd hmax.2⟩,
        loop_bucket q w d _ _ _ acc fun it hit => ⟨(mem_bucket.1 hit).2, hok it (mem_bucket.1 hit).1⟩,
        ih (d + 1) d (max dm d) _ hn' (Nat.max_le.2 ⟨hdm, hd⟩)
          -- the last depth written is `dmax` itself
          (fun h0 => have e : d = dmax := (h0 ▸ hn : d + 0 = dmax); (Nat.max_eq_right (e ▸ hdm)).trans e),
        List.reverse_append, List.reverse_reverse, List.append_assoc]

theorem encodeFrom_head (items : List Item) (dmax : Nat) : ∀ (n d : Nat),
    encodeFrom items dmax d n = [] ∨ ∃ k r, encodeFrom items dmax d n = .depth k :: r := by
  intro n
  induction n with
  | zero => intro d; exact Or.inl rfl
  | succ n ih =>
    intro d
    rw [encodeFrom]
    split
    · exact ih (d + 1)
    · exact Or.inr ⟨d, _, rfl⟩

theorem decodeRaw_eq_loop (q : Qty) (w : Nat) (ts : List Tok)
    (h : ts = [] ∨ ∃ k r, ts = .depth k :: r) : decodeRaw q w ts = loopToks q w 0 0 ts [] := by
  rcases h with rfl | ⟨k, r, rfl⟩
  · rfl
  · rw [loopToks, Nat.zero_max]; rfl

theorem loopToks_ok (q : Qty) (w : Nat) : ∀ (ts : List Tok) (cur dm : Nat) (acc : List Item) (d : Nat) (l : List Item),
    loopToks q w cur dm ts acc = .ok (d, l) → cur ≤ q.maxDepth w ∧ cur ≤ 255 ∧ cur ≤ dm → dm ≤ q.maxDepth w →
    (∀ it ∈ acc, ItemOk q w it ∧ it.d ≤ dm) →
    d ≤ q.maxDepth w ∧ ∀ it ∈ l, ItemOk q w it ∧ it.d ≤ d := by
  intro ts
  induction ts with
  | nil =>
    intro cur dm acc d l h _ hdm hacc
    cases h
    exact ⟨hdm, fun it hit => hacc it (List.mem_reverse.1 hit)⟩
  | cons t ts ih =>
    intro cur dm acc d l h hcur hdm hacc
    have range : ∀ s e, loopToks q w cur dm (.range s e :: ts) acc = .ok (d, l) →
        d ≤ q.maxDepth w ∧ ∀ it ∈ l, ItemOk q w it ∧ it.d ≤ d := by
      intro s e h
      rw [loopToks_range] at h
      by_cases hse : s < e ∧ e ≤ q.nCells cur
      · rw [if_pos hse] at h
        exact ih cur dm _ d l h hcur hdm (List.forall_mem_cons.2 ⟨⟨⟨hcur.1, hcur.2.1, hse⟩, hcur.2.2⟩, hacc⟩)
      · rw [if_neg hse] at h; cases h
    cases t with
    | depth k =>
      -- beyond either limit the loop returns an error, which `h` excludes
      by_cases h1 : k > 255
      · exact nomatch (if_pos h1).symm.trans h
      by_cases h2 : k > q.maxDepth w
      · exact nomatch ((if_neg h1).trans (if_pos h2)).symm.trans h
      have hk := And.intro (Nat.le_of_not_gt h2) (Nat.le_of_not_gt h1)
      rw [loopToks_depth hk] at h
      exact ih k (max dm k) acc d l h ⟨hk.1, hk.2, Nat.le_max_right _ _⟩ (Nat.max_le.2 ⟨hdm, hk.1⟩)
        (fun it hit => ⟨(hacc it hit).1, Nat.le_trans (hacc it hit).2 (Nat.le_max_left _ _)⟩)
    | cell i => rw [loopToks_cell] at h; exact range i (i + 1) h
    | range s e => exact range s e h

theorem decodeRaw_ok (q : Qty) (w : Nat) (ts : List Tok) (d : Nat) (items : List Item)
    (h : decodeRaw q w ts = .ok (d, items)) : d ≤ q.maxDepth w ∧ ∀ it ∈ items, ItemOk q w it ∧ it.d ≤ d := by
  have hts : ts = [] ∨ ∃ k r, ts = .depth k :: r := by
    -- on a first token that is a cell or a range `h` is `.error .firstTok = .ok _`: no case to write
    match ts, h with
    | [], _ => exact .inl rfl
    | .depth k :: r, _ => exact .inr ⟨k, r, rfl⟩
  rw [decodeRaw_eq_loop q w ts hts] at h
  exact loopToks_ok q w ts 0 0 [] d items h ⟨Nat.zero_le _, Nat.zero_le _, Nat.le_refl _⟩ (Nat.zero_le _)
    (fun _ h => nomatch h)

/-- The body of `C07.Disjoint`, which stands with the statements that use it. -/
def Disjoint' (a b : Rng) : Prop := a.2 ≤ b.1 ∨ b.2 ≤ a.1

theorem adjOverlap_cons_cons (a b : Rng) (t : List Rng) :
    adjOverlap (a :: b :: t) = false ↔ Disjoint' a b ∧ adjOverlap (b :: t) = false := by
  simp only [adjOverlap, Bool.or_eq_false_iff, Bool.and_eq_false_iff, decide_eq_false_iff_not, Nat.not_lt, Disjoint']

theorem adjOverlap_of_disjoint (l : List Rng) (h : l.Pairwise Disjoint') : adjOverlap l = false := by
  induction l with
  | nil => rfl
  | cons a t ih =>
    obtain ⟨ha, ht⟩ := List.pairwise_cons.1 h
    cases t with
    | nil => rfl
    | cons b t => exact (adjOverlap_cons_cons a b t).2 ⟨ha b List.mem_cons_self, ih ht⟩

theorem disjoint_of_sorted_adj (l : List Rng) (hs : l.Pairwise (fun a b => a.1 ≤ b.1))
    (hne : ∀ r ∈ l, r.1 < r.2) (hadj : adjOverlap l = false) : l.Pairwise Disjoint' := by
  induction l with
  | nil => exact .nil
  | cons a t ih =>
    obtain ⟨ha, hs'⟩ := List.pairwise_cons.1 hs
    cases t with
    | nil => exact List.pairwise_singleton _ _
    | cons b t =>
      obtain ⟨hd, hadj'⟩ := (adjOverlap_cons_cons a b t).1 hadj
      -- `b` is not empty and does not start before `a`, so `a` ends before `b` starts; the later ranges start after `b`
      have hab : a.2 ≤ b.1 := hd.resolve_right fun h => Nat.lt_irrefl _
        (Nat.lt_of_lt_of_le (hne b (List.mem_cons_of_mem _ List.mem_cons_self)) (Nat.le_trans h (ha b List.mem_cons_self)))
      have hb : ∀ c ∈ b :: t, b.1 ≤ c.1 := List.forall_mem_cons.2 ⟨Nat.le_refl _, (List.pairwise_cons.1 hs').1⟩
      exact List.pairwise_cons.2 ⟨fun c hc => .inl (Nat.le_trans hab (hb c hc)),
        ih hs' (fun r hr => hne r (List.mem_cons_of_mem _ hr)) hadj'⟩

theorem sortByStart_perm (l : List Rng) : (sortByStart l).Perm l := List.mergeSort_perm _ _

theorem sortByStart_sorted (l : List Rng) : (sortByStart l).Pairwise (fun a b => a.1 ≤ b.1) :=
  (List.pairwise_mergeSort (le := fun (a b : Rng) => decide (a.1 ≤ b.1))
    (fun a b c hab hbc => decide_eq_true (Nat.le_trans (of_decide_eq_true hab) (of_decide_eq_true hbc)))
    (fun a b => by rw [Bool.or_eq_true, decide_eq_true_eq, decide_eq_true_eq]; exact Nat.le_total _ _) l).imp
    fun h => of_decide_eq_true h

/-- Sorting only serves the overlap test: `normalize` does not see the order. -/
theorem finish_eq (q : Qty) (w d : Nat) (l : List Item) :
    finish q w (d, l) = if adjOverlap (sortByStart (l.map (rangeOfItem q w))) then .error .notValid
      else .ok (d, normalize (l.map (rangeOfItem q w))) := by
  rw [finish, normalize_perm (sortByStart_perm _)]

theorem finish_ok (q : Qty) (w d : Nat) (l : List Item) (hdis : (l.map (rangeOfItem q w)).Pairwise Disjoint') :
    finish q w (d, l) = .ok (d, normalize (l.map (rangeOfItem q w))) := by
  rw [finish_eq, adjOverlap_of_disjoint _ (((sortByStart_perm _).pairwise_iff Or.symm).2 hdis)]
  rfl

theorem decodeToks_encodeToks (q : Qty) (w dmax : Nat) (items : List Item)
    (hmax : dmax ≤ q.maxDepth w ∧ dmax ≤ 255) (hok : ∀ it ∈ items, ItemOk q w it ∧ it.d ≤ dmax)
    (hdis : (items.map (rangeOfItem q w)).Pairwise Disjoint') :
    decodeToks q w (encodeToks dmax items) = .ok (dmax, normalize (items.map (rangeOfItem q w))) := by
  have pb : (bucketed items 0 (dmax + 1)).Perm items := by
    have := bucketed_perm items (dmax + 1) 0
    rwa [List.filter_eq_self.2 fun it h =>
      decide_eq_true ⟨Nat.zero_le _, Nat.zero_add _ ▸ Nat.lt_succ_of_le (hok it h).2⟩] at this
  have pm := pb.map (rangeOfItem q w)
  rw [decodeToks, encodeToks, decodeRaw_eq_loop q w _ (encodeFrom_head items dmax (dmax + 1) 0),
    loop_encodeFrom q w dmax items hmax (fun it h => (hok it h).1) (dmax + 1) 0 0 0 [] (Nat.zero_add _)
      (Nat.zero_le _) (fun h => absurd h (Nat.succ_ne_zero _))]
  exact (finish_ok q w dmax _ ((pm.pairwise_iff Or.symm).2 hdis)).trans (by rw [normalize_perm pm])

theorem normalize_nil : normalize ([] : List Rng) = [] := rfl

theorem decodeToks_depth (q : Qty) (w d : Nat) (h : d ≤ q.maxDepth w ∧ d ≤ 255) :
    decodeToks q w [Tok.depth d] = .ok (d, []) := by
  rw [decodeToks, decodeRaw_eq_loop q w _ (.inr ⟨d, [], rfl⟩), loopToks_depth h, Nat.zero_max]
  exact finish_ok q w d [] .nil

end Moc.Codec
