/-
  Character-level lemmas for the ST ASCII document (C11): splitting the writer's characters on the
  prefixes `t` and `s` gives back the per-element parts, because number / separator characters never
  contain these two letters.  Token level: the document reader on the parts of any pair of 1-D writers.
-/
import MocVerif.Lemmas.Text
import MocVerif.Lemmas.Codec
import MocVerif.Model.STText

namespace Moc.STText
open Moc Moc.Codec

abbrev Plain (c : Char) : Prop := c ≠ 't' ∧ c ≠ 's'

theorem plain_of_isDigit {c : Char} (h : isDigit c = true) : Plain c := by
  constructor <;> (rintro rfl; revert h; decide)

theorem showNat_plain (n : Nat) : ∀ c ∈ showNat n, Plain c :=
  fun c hc => plain_of_isDigit (showNat_digits n c hc).isDigit

theorem showTokC_plain (t : Tok) : ∀ c ∈ showTokC t, Plain c := by
  cases t with
  | depth d => exact all_append (showNat_plain d) (all_cons (by decide) all_nil)
  | cell i => exact all_append (showNat_plain i) (all_cons (by decide) all_nil)
  | range s e =>
    exact all_append (showNat_plain s) (all_cons (by decide) (all_append (showNat_plain (e - 1)) (all_cons (by decide) all_nil)))

theorem encodeChars_plain (dmax : Nat) (items : List Item) : ∀ c ∈ encodeChars dmax items, Plain c := by
  have hb : ∀ c ∈ ((encodeToks dmax items).map showTokC).flatten, Plain c := by
    intro c hc
    obtain ⟨l, hl, hcl⟩ := List.mem_flatten.1 hc
    obtain ⟨t, _, rfl⟩ := List.mem_map.1 hl
    exact showTokC_plain t c hcl
  rw [encodeChars]
  split
  · exact all_append hb (all_cons (by decide) all_nil)
  · exact hb

/-! ### Splitting -/

theorem splitOnChar_ne_nil (sep : Char) (l : List Char) : splitOnChar sep l ≠ [] := by
  cases l with
  | nil => exact List.cons_ne_nil _ _
  | cons c t =>
    rw [splitOnChar]
    split
    · exact List.cons_ne_nil _ _
    · split <;> exact List.cons_ne_nil _ _

theorem splitOnChar_sep (sep : Char) (b : List Char) :
    splitOnChar sep (sep :: b) = [] :: splitOnChar sep b := by
  rw [splitOnChar]
  cases h : splitOnChar sep b with
  | nil => exact absurd h (splitOnChar_ne_nil sep b)
  | cons x r => exact if_pos rfl

theorem splitOnChar_prefix (sep : Char) {a : List Char} (ha : ∀ c ∈ a, c ≠ sep) {X h : List Char}
    {r : List (List Char)} (hX : splitOnChar sep X = h :: r) : splitOnChar sep (a ++ X) = (a ++ h) :: r := by
  induction a with
  | nil => exact hX
  | cons c t ih =>
    rw [List.cons_append, splitOnChar, ih fun x hx => ha x (List.mem_cons_of_mem _ hx)]
    exact if_neg (ha c List.mem_cons_self)

def joinSep (sep : Char) (ps : List (List Char)) : List Char := (ps.map (sep :: ·)).flatten

theorem joinSep_append_single (sep : Char) (ps : List (List Char)) (q : List Char) :
    joinSep sep (ps ++ [q]) = joinSep sep ps ++ sep :: q := by
  simp [joinSep]

theorem joinSep_cons (sep : Char) (p : List Char) (ps : List (List Char)) :
    joinSep sep (p :: ps) = sep :: (p ++ joinSep sep ps) := rfl

theorem splitOnChar_pieces (sep : Char) : ∀ (ps : List (List Char)) (p : List Char),
    (∀ c ∈ p, c ≠ sep) → (∀ q ∈ ps, ∀ c ∈ q, c ≠ sep) →
    splitOnChar sep (p ++ joinSep sep ps) = p :: ps := by
  intro ps
  induction ps with
  | nil => intro p hp _; simpa [joinSep] using splitOnChar_prefix sep hp (X := []) rfl
  | cons q ps ih =>
    intro p hp hps
    have hq : splitOnChar sep (sep :: (q ++ joinSep sep ps)) = [] :: q :: ps := by
      rw [splitOnChar_sep, ih q (hps q List.mem_cons_self) fun x hx => hps x (List.mem_cons_of_mem _ hx)]
    rw [joinSep_cons, splitOnChar_prefix sep hp hq, List.append_nil]

theorem splitOnce_append (sep : Char) (a b : List Char) (ha : ∀ c ∈ a, c ≠ sep) :
    splitOnce sep (a ++ sep :: b) = some (a, b) := by
  induction a with
  | nil => exact if_pos rfl
  | cons c t ih =>
    rw [List.cons_append, splitOnce, if_neg (ha c List.mem_cons_self),
      ih fun x hx => ha x (List.mem_cons_of_mem _ hx)]
    rfl

theorem dropSpaces_head (c : Char) (l : List Char) (h : isSpace c = false) :
    dropSpaces (c :: l) = c :: l := dropSpaces_nonspace c l h

theorem trimSpaces_append {l sp : List Char} (h1 : dropSpaces l = l) (h2 : dropSpaces l.reverse = l.reverse)
    (hsp : AllSpace sp) : trimSpaces (l ++ sp) = l := by
  rw [trimSpaces, List.reverse_append, dropSpaces_allSpace _ (fun c hc => hsp c (List.mem_reverse.1 hc)), h2,
    List.reverse_reverse, h1]

/-- The shape of the writer's document: `t`-introduced pieces, the last one ending with `/`, then a newline. -/
theorem trimSpaces_pieces (ps : List (List Char)) (Z : List Char) :
    trimSpaces (joinSep 't' (ps ++ [Z ++ ['/']]) ++ ['\n']) = joinSep 't' (ps ++ [Z ++ ['/']]) := by
  apply trimSpaces_append _ _ (all_cons (by decide) all_nil)
  · cases ps <;> exact dropSpaces_nonspace 't' _ (by decide)
  · rw [joinSep_append_single, List.reverse_append, List.reverse_cons, List.reverse_append]
    exact dropSpaces_nonspace '/' _ (by decide)

theorem decodeAscii_depthOnly (q : Qty) (w d : Nat) (hd : d < 2 ^ w) (tail : List Char) (ht : AllSpace tail) :
    decodeAscii q w (showNat d ++ '/' :: tail) = decodeToks q w [Tok.depth d] := by
  have := decodeAscii_showToks q w (List.cons_ne_nil (Tok.depth d) []) (all_cons hd all_nil) ht
  rwa [show showToks [Tok.depth d] ++ tail = showNat d ++ '/' :: tail by simp [showToks, showTokC]] at this

/-- The document reader on parts written by any pair of 1-D writers that the 1-D reader inverts, followed by the
    depth-only element: the ASCII and the JSON documents are the two instances. -/
theorem decodeDoc_parts (w d1 d2 : Nat) (enc1 enc2 : List Rng → List Tok) (elems : List Elem)
    (h1 : d1 ≤ Params.time.maxDepth w ∧ d1 ≤ 255) (h2 : d2 ≤ Params.hpx.maxDepth w ∧ d2 ≤ 255)
    (hv : ∀ e ∈ elems, decodeToks Params.time w (enc1 e.1) = .ok (d1, e.1) ∧
      decodeToks Params.hpx w (enc2 e.2) = .ok (d2, e.2) ∧ e.1 ≠ [] ∧ e.2 ≠ []) :
    decodeDoc w (elems.map (fun e => (enc1 e.1, enc2 e.2)) ++ [([.depth d1], [.depth d2])]) = .ok (d1, d2, elems) := by
  induction elems with
  | nil =>
    simp only [List.map_nil, List.nil_append, decodeDoc, decodeToks_depth _ w d1 h1, decodeToks_depth _ w d2 h2,
      Nat.max_zero, List.isEmpty_nil, Bool.or_self, ↓reduceIte]
  | cons e t ih =>
    obtain ⟨r1, r2, n1, n2⟩ := hv e List.mem_cons_self
    simp only [List.map_cons, List.cons_append, decodeDoc, r1, r2, ih fun x hx => hv x (List.mem_cons_of_mem _ hx),
      List.isEmpty_eq_false_iff.2 n1, List.isEmpty_eq_false_iff.2 n2, Nat.max_self, Bool.or_self, Bool.false_eq_true,
      ↓reduceIte]

end Moc.STText
