/-
  C10 — correctness of the transliterated `Ranges2D::merge` sweep (`Model/Merge2D.lean`).  An operand is read as a
  step function of time (`stepAt` of its bounds, a well-formed event sequence `EvOk`).  The merged sequence is the
  point-wise operation of the two step functions (`mergeEvents_spec`), the fold of `emit` cuts a step function into
  segments which the final pass makes a valid flat coverage (`foldl_emit_spec`, by the invariant `EInv`); together:
  `merge2_spec`.
-/
import MocVerif.Lemmas.FlatST
import MocVerif.Lemmas.SetOps
import MocVerif.Lemmas.Sweep

namespace Moc.Merge2D
open Moc

/-- For non-decreasing coordinates: the state after the last event of coordinate `≤ t`. -/
def stepAt (init : Option Space) (l : List Ev) (t : Nat) : Option Space :=
  l.foldl (fun st e => if e.1 ≤ t then e.2 else st) init

@[simp] theorem stepAt_nil (init : Option Space) (t : Nat) : stepAt init [] t = init := rfl
theorem stepAt_cons (init : Option Space) (e : Ev) (l : List Ev) (t : Nat) :
    stepAt init (e :: l) t = stepAt (if e.1 ≤ t then e.2 else init) l t := rfl

def SortedEv (lo : Nat) : List Ev → Prop
  | [] => True
  | e :: t => lo ≤ e.1 ∧ SortedEv e.1 t

theorem SortedEv.mono {lo lo' : Nat} {l : List Ev} (h : SortedEv lo l) (hle : lo' ≤ lo) : SortedEv lo' l := by
  cases l with
  | nil => trivial
  | cons e t => exact ⟨Nat.le_trans hle h.1, h.2⟩

theorem SortedEv.stepAt_lt {lo t : Nat} {l : List Ev} (h : SortedEv lo l) (ht : t < lo) (init : Option Space) :
    stepAt init l t = init := by
  induction l generalizing lo with
  | nil => rfl
  | cons e r ih =>
    have hlt : t < e.1 := Nat.lt_of_lt_of_le ht h.1
    rw [stepAt_cons, if_neg (Nat.not_le.2 hlt)]
    exact ih h.2 hlt

theorem SortedEv.stepAt_head {c t : Nat} {l : List Ev} (h : SortedEv c l) (st x : Option Space) :
    stepAt st ((c, x) :: l) t = if c ≤ t then stepAt x l t else st := by
  rw [stepAt_cons]
  split
  · rfl
  · next hc => exact h.stepAt_lt (Nat.lt_of_not_le hc) st

/-- The same list and state on both sides: the shape `mergeEvents_step` wants in `e1`, `e2` for the operand that does
    not move. -/
theorem SortedEv.stepAt_keep {c t : Nat} {l : List Ev} (h : SortedEv c l) (st : Option Space) :
    stepAt st l t = if c ≤ t then stepAt st l t else st := by
  split
  · rfl
  · next hc => exact h.stepAt_lt (Nat.lt_of_not_le hc) st

/-- A well-formed event sequence `l` read from the state `st`: coordinates non-decreasing from `lo`, every state
    satisfies `R`, and the state after the last event is `none` — which is why `mergeEvents` may take `none` for an
    exhausted operand. -/
def EvOk (R : Option Space → Prop) : Nat → Option Space → List Ev → Prop
  | _, st, [] => R st ∧ st = none
  | lo, st, e :: l => R st ∧ lo ≤ e.1 ∧ EvOk R e.1 e.2 l

section EvOk
variable {R : Option Space → Prop} {lo : Nat} {st : Option Space} {l : List Ev}

theorem EvOk.state (h : EvOk R lo st l) : R st := by
  cases l with
  | nil => exact h.1
  | cons e r => exact h.1

theorem EvOk.sorted (h : EvOk R lo st l) : SortedEv lo l := by
  induction l generalizing lo st with
  | nil => trivial
  | cons e r ih => exact ⟨h.2.1, ih h.2.2⟩

theorem EvOk.state_at (h : EvOk R lo st l) (t : Nat) : R (stepAt st l t) := by
  induction l generalizing lo st with
  | nil => exact h.1
  | cons e r ih =>
    rw [h.2.2.sorted.stepAt_head]
    split
    · exact ih h.2.2
    · exact h.1

end EvOk

theorem apply_none_none (op : Op) : op.apply none none = none := by cases op <;> rfl

/-- One step of the merge, whichever operand moves: the operands `L1`, `L2` in the states `st1`, `st2` are, after the
    event at `c`, `l1`, `l2` in the states `x1`, `x2` (`e1`, `e2`). -/
theorem mergeEvents_step {R : Option Space → Prop} {op : Op} {lo c : Nat} {m l1 l2 L1 L2 : List Ev}
    {st1 st2 x1 x2 : Option Space}
    (hlo : lo ≤ c) (hR : R (op.apply st1 st2))
    (ih : EvOk R c (op.apply x1 x2) m ∧ ∀ t, stepAt (op.apply x1 x2) m t = op.apply (stepAt x1 l1 t) (stepAt x2 l2 t))
    (e1 : ∀ t, stepAt st1 L1 t = if c ≤ t then stepAt x1 l1 t else st1)
    (e2 : ∀ t, stepAt st2 L2 t = if c ≤ t then stepAt x2 l2 t else st2) :
    EvOk R lo (op.apply st1 st2) ((c, op.apply x1 x2) :: m) ∧
      ∀ t, stepAt (op.apply st1 st2) ((c, op.apply x1 x2) :: m) t = op.apply (stepAt st1 L1 t) (stepAt st2 L2 t) := by
  refine ⟨⟨hR, hlo, ih.1⟩, fun t => ?_⟩
  rw [ih.1.sorted.stepAt_head, e1, e2]
  by_cases hc : c ≤ t
  · rw [if_pos hc, if_pos hc, if_pos hc, ih.2 t]
  · rw [if_neg hc, if_neg hc, if_neg hc]

theorem mergeEvents_spec (op : Op) {R : Option Space → Prop} (hR : ∀ x y, R x → R y → R (op.apply x y)) :
    ∀ (l1 l2 : List Ev) (st1 st2 : Option Space) (lo : Nat), EvOk R lo st1 l1 → EvOk R lo st2 l2 →
    EvOk R lo (op.apply st1 st2) (mergeEvents op l1 l2 st1 st2) ∧
    ∀ t, stepAt (op.apply st1 st2) (mergeEvents op l1 l2 st1 st2) t = op.apply (stepAt st1 l1 t) (stepAt st2 l2 t) := by
  intro l1 l2 st1 st2
  fun_induction mergeEvents op l1 l2 st1 st2 with
  | case1 st1 st2 =>
    intro lo h1 h2
    obtain ⟨r1, e1⟩ := h1
    obtain ⟨r2, e2⟩ := h2
    cases (e1 : st1 = none)
    cases (e2 : st2 = none)
    exact ⟨⟨hR _ _ r1 r2, apply_none_none op⟩, fun t => rfl⟩
  | case2 c x2 t2 st1 st2 ih =>
    intro lo h1 h2
    obtain ⟨r2, hl2, o2⟩ := h2
    cases (h1.2 : st1 = none)
    exact mergeEvents_step hl2 (hR _ _ h1.1 r2) (ih c h1 o2) (fun t => (ite_self _).symm)
      (fun t => o2.sorted.stepAt_head _ _)
  | case3 c x1 t1 st1 st2 ih =>
    intro lo h1 h2
    obtain ⟨r1, hl1, o1⟩ := h1
    cases (h2.2 : st2 = none)
    exact mergeEvents_step hl1 (hR _ _ r1 h2.1) (ih c o1 h2) (fun t => o1.sorted.stepAt_head _ _)
      (fun t => (ite_self _).symm)
  | case4 v1 x1 t1 v2 x2 t2 st1 st2 hlt ih =>
    intro lo h1 h2
    obtain ⟨r1, hl1, o1⟩ := h1
    obtain ⟨r2, _, o2⟩ := h2
    have h2 : EvOk R v1 st2 ((v2, x2) :: t2) := ⟨r2, Nat.le_of_lt hlt, o2⟩
    exact mergeEvents_step hl1 (hR _ _ r1 r2) (ih v1 o1 h2) (fun t => o1.sorted.stepAt_head _ _)
      (fun t => h2.sorted.stepAt_keep st2)
  | case5 v1 x1 t1 v2 x2 t2 st1 st2 hn hlt ih =>
    intro lo h1 h2
    obtain ⟨r1, _, o1⟩ := h1
    obtain ⟨r2, hl2, o2⟩ := h2
    have h1 : EvOk R v2 st1 ((v1, x1) :: t1) := ⟨r1, Nat.le_of_lt hlt, o1⟩
    exact mergeEvents_step hl2 (hR _ _ r1 r2) (ih v2 h1 o2) (fun t => h1.sorted.stepAt_keep st1)
      (fun t => o2.sorted.stepAt_head _ _)
  | case6 v1 x1 t1 v2 x2 t2 st1 st2 hn1 hn2 ih =>
    intro lo h1 h2
    obtain ⟨r1, hl1, o1⟩ := h1
    obtain ⟨r2, _, o2⟩ := h2
    cases (Nat.le_antisymm (Nat.le_of_not_lt hn2) (Nat.le_of_not_lt hn1) : v1 = v2)
    exact mergeEvents_step hl1 (hR _ _ r1 r2) (ih v1 o1 o2) (fun t => o1.sorted.stepAt_head _ _)
      (fun t => o2.sorted.stepAt_head _ _)

/-! ### from the event sequence to segments -/

def memO (s : Nat) (x : Option Space) : Prop := ∃ S, x = some S ∧ mem s S

@[simp] theorem memO_none (s : Nat) : memO s none ↔ False := by simp [memO]
@[simp] theorem memO_some (s : Nat) (S : Space) : memO s (some S) ↔ mem s S := by simp [memO]

/-- The loop treats an empty coverage as "outside". -/
def norm : Option Space → Option Space
  | some S => if S = [] then none else some S
  | none => none

@[simp] theorem memO_norm (s : Nat) (x : Option Space) : memO s (norm x) ↔ memO s x := by
  cases x with
  | none => rfl
  | some S => by_cases h : S = [] <;> simp [norm, h]

theorem norm_eq_some {x : Option Space} {S : Space} (h : norm x = some S) : x = some S ∧ S ≠ [] := by
  obtain _ | _ | ⟨r, T⟩ := x
  · cases h
  · cases h
  · cases h; exact ⟨rfl, List.cons_ne_nil r T⟩

def closeAt (sw : Sw) (c : Nat) : FlatST :=
  match sw.cur with
  | some (t0, p) => sw.out ++ [((t0, c), p)]
  | none => sw.out

/-- `emit` without its case distinction: it acts only when the normalised state changes. -/
theorem emit_eq (sw : Sw) (e : Ev) :
    emit sw e = if norm e.2 = sw.cur.map (·.2) then sw
      else { out := closeAt sw e.1, cur := (norm e.2).map (e.1, ·) } := by
  -- unless a segment is open and the new coverage is non-empty, both sides compute to the same
  obtain ⟨out, _ | ⟨t0, p⟩⟩ := sw <;> obtain ⟨c, _ | _ | ⟨r, cr⟩⟩ := e
  · rfl
  · rfl
  · rfl
  · rfl
  · rfl
  · show (if (p != r :: cr) = true then _ else _) = if some (r :: cr) = some p then _ else _
    by_cases hp : p = r :: cr
    · subst hp; rw [if_neg (by rw [bne_self_eq_false]; exact Bool.false_ne_true), if_pos rfl]
    · rw [if_pos (bne_iff_ne.2 hp), if_neg (fun h => hp (Option.some.inj h).symm)]; rfl

/-- Invariant of the fold of `emit`, the sweep line being at `cl` and the events so far ending in the state `st`: the
    closed segments cover `C` up to the start of the open one (up to `cl` if none is open), which carries `st` since its
    start. -/
def EInv (P : Space → Prop) (C : Nat → Nat → Prop) (st : Option Space) (cl : Nat) (sw : Sw) : Prop :=
  sw.cur.map (·.2) = norm st ∧
  match sw.cur with
  | none => Covers (fun e => e.2 ≠ [] ∧ P e.2) C cl sw.out
  | some (t0, p) => Covers (fun e => e.2 ≠ [] ∧ P e.2) C t0 sw.out ∧ t0 ≤ cl ∧ P p ∧
      ∀ t s, t0 ≤ t → t < cl → (C t s ↔ mem s p)

section EInv
variable {P : Space → Prop} {C : Nat → Nat → Prop} {st : Option Space} {cl c : Nat} {sw : Sw}

theorem EInv.closed (h : EInv P C st cl sw) : Covers (fun e => e.2 ≠ [] ∧ P e.2) C cl (closeAt sw cl) := by
  obtain ⟨out, _ | ⟨t0, p⟩⟩ := sw
  · exact h.2
  · exact h.2.1.push h.2.2.1 ⟨(norm_eq_some h.1.symm).2, h.2.2.2.1⟩ h.2.2.2.2

theorem EInv.advance (h : EInv P C st cl sw) (hc : cl ≤ c) (hC : ∀ t s, cl ≤ t → t < c → (C t s ↔ memO s st)) :
    EInv P C st c sw := by
  have hC' : ∀ t s, cl ≤ t → t < c → (C t s ↔ memO s (sw.cur.map (·.2))) := fun t s h1 h2 => by
    rw [h.1, memO_norm]; exact hC t s h1 h2
  obtain ⟨out, _ | ⟨t0, p⟩⟩ := sw
  · exact ⟨h.1, h.2.idle hc fun t s h1 h2 hm => (memO_none s).1 ((hC' t s h1 h2).1 hm)⟩
  · obtain ⟨hst, hcov, hle, hP, hsem⟩ := h
    refine ⟨hst, hcov, Nat.le_trans hle hc, hP, fun t s h0 ht => ?_⟩
    by_cases htl : t < cl
    · exact hsem t s h0 htl
    · exact (hC' t s (Nat.le_of_not_lt htl) ht).trans (memO_some s p)

theorem EInv.event (h : EInv P C st c sw) (x : Option Space) (hP : ∀ S, x = some S → P S) :
    EInv P C x c (emit sw (c, x)) := by
  rw [emit_eq]
  split
  · next hx => exact ⟨hx.symm, h.2⟩
  · cases hn : norm x with
    | none => exact ⟨hn.symm, h.closed⟩
    | some cr => exact ⟨hn.symm, h.closed, Nat.le_refl _, hP cr (norm_eq_some hn).1, fun t s h0 ht => absurd ht (Nat.not_lt.2 h0)⟩

end EInv

/-- Generalised for the induction to the events still to come: from the sweep line on, `C` is the step function they
    define. -/
theorem foldl_emit_spec {P : Space → Prop} (C : Nat → Nat → Prop) :
    ∀ (rest : List Ev) (st : Option Space) (cl : Nat) (sw : Sw), EInv P C st cl sw → EvOk (fun x => ∀ S, x = some S → P S) cl st rest →
    (∀ t s, cl ≤ t → (C t s ↔ memO s (stepAt st rest t))) →
    VF P 0 none (postPass (rest.foldl emit sw).out) ∧ ∀ t s, memFlat t s (postPass (rest.foldl emit sw).out) ↔ C t s := by
  intro rest
  induction rest with
  | nil =>
    intro st cl sw h hok hC
    cases (hok.2 : st = none)
    obtain ⟨out, _ | tp⟩ := sw
    · exact h.2.final (fun _ => id) fun t s ht => by rw [hC t s ht]; exact (memO_none s).1
    · cases h.1
  | cons e r ih =>
    intro st cl sw h hok hC
    have hstep := fun t => hok.2.2.sorted.stepAt_head (t := t) st e.2
    refine ih e.2 e.1 (emit sw e) ((h.advance hok.2.1 fun t s h1 h2 => ?_).event e.2 hok.2.2.state) hok.2.2
      (fun t s ht => ?_)
    · rw [hC t s h1, hstep, if_neg (Nat.not_le.2 h2)]
    · rw [hC t s (Nat.le_trans hok.2.1 ht), hstep, if_pos ht]

/-- A well-formed operand: weaker than `VF Canon` (`InOk_of_VF`), touching ranges may carry the same coverage and a
    coverage may be empty. -/
def InOk (lo : Nat) : FlatST → Prop
  | [] => True
  | e :: t => lo ≤ e.1.1 ∧ e.1.1 < e.1.2 ∧ Canon e.2 ∧ InOk e.1.2 t

def CanonO (x : Option Space) : Prop := ∀ S, x = some S → Canon S

theorem canonO_none : CanonO none := nofun

theorem evs_cons (e : Rng × Space) (r : FlatST) : evs (e :: r) = (e.1.1, some e.2) :: (e.1.2, none) :: evs r := rfl

theorem evs_spec : ∀ (a : FlatST) (lo : Nat), InOk lo a →
    EvOk CanonO lo none (evs a) ∧ ∀ t s, memO s (stepAt none (evs a) t) ↔ memFlat t s a := by
  intro a
  induction a with
  | nil => exact fun _ _ => ⟨⟨canonO_none, rfl⟩, fun t s => (memO_none s).trans (memFlat_nil t s).symm⟩
  | cons x r ih =>
    intro lo ⟨h1, h2, h3, h4⟩
    obtain ⟨hok, hm⟩ := ih x.1.2 h4
    have hok' : EvOk CanonO x.1.1 (some x.2) ((x.1.2, none) :: evs r) :=
      ⟨fun S hS => Option.some.inj hS ▸ h3, Nat.le_of_lt h2, hok⟩
    refine ⟨⟨canonO_none, h1, hok'⟩, fun t s => ?_⟩
    rw [memFlat_cons, ← hm t s, evs_cons, hok'.sorted.stepAt_head, hok.sorted.stepAt_head]
    by_cases c2 : x.1.2 ≤ t
    · simp [c2, Nat.le_trans (Nat.le_of_lt h2) c2, Nat.not_lt.2 c2]
    · rw [hok.sorted.stepAt_lt (Nat.lt_of_not_le c2)]
      by_cases c1 : x.1.1 ≤ t <;> simp [c1, c2, Nat.lt_of_not_le c2]

def Op.sem : Op → Prop → Prop → Prop
  | .union, p, q => p ∨ q
  | .inter, p, q => p ∧ q
  | .diff, p, q => p ∧ ¬ q

def Op.bin : Op → Space → Space → Space
  | .union => Moc.union
  | .inter => Moc.intersection
  | .diff => Moc.difference

theorem Op.bin_spec (op : Op) (a b : Space) (ha : Canon a) (hb : Canon b) :
    Canon (op.bin a b) ∧ ∀ s, mem s (op.bin a b) ↔ op.sem (mem s a) (mem s b) := by
  cases op
  · exact union_spec a b ha hb
  · exact intersection_spec a b ha hb
  · exact difference_spec a b ha hb

theorem Op.apply_none_left (op : Op) (y : Option Space) : op.apply none y = if op = .union then y else none := by
  cases op <;> cases y <;> rfl

theorem Op.apply_none_right (op : Op) (x : Option Space) : op.apply x none = if op = .inter then none else x := by
  cases op <;> cases x <;> rfl

theorem Op.apply_some_some (op : Op) (a b : Space) : op.apply (some a) (some b) = some (op.bin a b) := by
  cases op <;> rfl

theorem apply_spec (op : Op) (x y : Option Space) (hx : CanonO x) (hy : CanonO y) :
    CanonO (op.apply x y) ∧ ∀ s, memO s (op.apply x y) ↔ op.sem (memO s x) (memO s y) := by
  rcases x with _ | a
  · rw [op.apply_none_left]
    exact ⟨by split <;> assumption, fun s => by cases op <;> simp [Op.sem]⟩
  · rcases y with _ | b
    · rw [op.apply_none_right]
      exact ⟨by split <;> assumption, fun s => by cases op <;> simp [Op.sem]⟩
    · have := op.bin_spec a b (hx _ rfl) (hy _ rfl)
      rw [op.apply_some_some]
      exact ⟨fun S hS => Option.some.inj hS ▸ this.1, fun s => by rw [memO_some, this.2 s, memO_some, memO_some]⟩

/-- `Ranges2D::merge` (union / intersection / difference of flat space-time coverages): for well-formed operands the
    result is a valid flat coverage and covers exactly the pairs `(t, s)` given by the point-wise operation. -/
theorem merge2_spec (op : Op) (a b : FlatST) (ha : InOk 0 a) (hb : InOk 0 b) :
    VF Canon 0 none (merge2 op a b) ∧
    ∀ t s, memFlat t s (merge2 op a b) ↔ op.sem (memFlat t s a) (memFlat t s b) := by
  obtain ⟨oka, ma⟩ := evs_spec a 0 ha
  obtain ⟨okb, mb⟩ := evs_spec b 0 hb
  obtain ⟨hok, hstep⟩ :=
    mergeEvents_spec op (fun x y hx hy => (apply_spec op x y hx hy).1) (evs a) (evs b) none none 0 oka okb
  rw [apply_none_none] at hok hstep
  obtain ⟨hv, hm⟩ := foldl_emit_spec (fun t s => memO s (stepAt none (mergeEvents op (evs a) (evs b) none none) t))
    _ none 0 {} ⟨rfl, Covers.nil⟩ hok fun _ _ _ => Iff.rfl
  refine ⟨hv, fun t s => ?_⟩
  unfold merge2
  rw [hm t s, hstep t, (apply_spec op _ _ (oka.state_at t) (okb.state_at t)).2 s, ma t s, mb t s]

theorem InOk_of_VF : ∀ (g : FlatST) (pe : Nat) (ps : Option Space), VF Canon pe ps g → InOk pe g := by
  intro g
  induction g with
  | nil => intro _ _ _; trivial
  | cons e r ih =>
    intro pe ps h
    exact ⟨h.prev_le, h.range_lt, h.sat, ih e.1.2 (some e.2) h.tail⟩

theorem merge2_ext {op : Op} {a b r : FlatST} (ha : InOk 0 a) (hb : InOk 0 b) (hr : VF Canon 0 none r)
    (h : ∀ t s, memFlat t s r ↔ op.sem (memFlat t s a) (memFlat t s b)) : merge2 op a b = r := by
  have x := merge2_spec op a b ha hb
  exact VF.ext _ _ 0 none x.1 hr fun t s => by rw [x.2, h]

end Moc.Merge2D
