/-
  C06 — the max-depth RANGE builder (`RangeMocBuilder`, `from_maxdepth_ranges`, `from_cells`):
  invariant over the pushes, for every order of arrival, overlap pattern and buffer capacity.
-/
import MocVerif.Lemmas.Builders
import MocVerif.Lemmas.Degrade

namespace Moc

/-- The end of a sorted buffer, from its last range `a` on, may be replaced by any list sorted from
    `a.1` on: one more range after `a`, or another range in place of `a`. -/
theorem SortedFrom.append_last {a : Rng} {l : List Rng} {lo : Nat} (h : SortedFrom lo (l ++ [a]))
    {m : List Rng} (hm : SortedFrom a.1 m) : SortedFrom lo (l ++ m) := by
  induction l generalizing lo with
  | nil => exact hm.mono h.1
  | cons _ _ ih => exact ⟨h.1, h.2.1, ih h.2.2⟩

theorem ite_lt_min (c a : Nat) : (if c < a then c else a) = min c a := by
  by_cases h : c < a
  · rw [if_pos h, Nat.min_eq_left (Nat.le_of_lt h)]
  · rw [if_neg h, Nat.min_eq_right (Nat.le_of_not_lt h)]
theorem ite_lt_max (b d : Nat) : (if b < d then d else b) = max b d := by
  by_cases h : b < d
  · rw [if_pos h, Nat.max_eq_right (Nat.le_of_lt h)]
  · rw [if_neg h, Nat.max_eq_left (Nat.le_of_not_lt h)]

theorem hull_nonempty (a b : Rng) (ha : a.1 < a.2) : min b.1 a.1 < max a.2 b.2 :=
  Nat.lt_of_le_of_lt (Nat.min_le_right ..) (Nat.lt_of_lt_of_le ha (Nat.le_max_left ..))

theorem lt_max_iff {a b c : Nat} : c < max a b ↔ c < a ∨ c < b := Std.le_max (a := c + 1)

/-- `push` replaces the last range of the buffer and a new one that touches or overlaps it by their hull. -/
theorem mem_hull (a b : Rng) (x : Nat) (h1 : ¬ b.2 < a.1) (h2 : ¬ a.2 < b.1) :
    mem x [(min b.1 a.1, max a.2 b.2)] ↔ mem x [a] ∨ mem x [b] := by
  simp only [mem_cons, mem_nil, or_false, Std.min_le, lt_max_iff]
  constructor
  · rintro ⟨hl, hr⟩
    rcases Nat.lt_or_ge x a.2 with hx | hx
    · rcases Nat.lt_or_ge x a.1 with ha | ha
      · exact Or.inr ⟨hl.resolve_right (Nat.not_le.2 ha), Nat.lt_of_lt_of_le ha (Nat.le_of_not_lt h1)⟩
      · exact Or.inl ⟨ha, hx⟩
    · exact Or.inr ⟨Nat.le_trans (Nat.le_of_not_lt h2) hx, hr.resolve_left (Nat.not_lt.2 hx)⟩
  · rintro (⟨hl, hr⟩ | ⟨hl, hr⟩)
    · exact ⟨Or.inr hl, Or.inl hr⟩
    · exact ⟨Or.inl hl, Or.inr hr⟩

structure RgInv (b : RgBuilder) (pushed : List Rng) : Prop where
  sortedOk : b.sorted = true → SortedFrom 0 b.buff
  nonempty : ∀ r ∈ b.buff, r.1 < r.2
  canon : Canon (b.moc.getD [])
  sem : ∀ x, (mem x (b.moc.getD []) ∨ mem x b.buff) ↔ mem x pushed

theorem RgInv.drain {b : RgBuilder} {pushed : List Rng} (h : RgInv b pushed) : RgInv b.drain pushed := by
  have hbuf : SortedFrom 0 (if b.sorted then b.buff else sortByStart b.buff) ∧
      ∀ x, mem x (if b.sorted then b.buff else sortByStart b.buff) ↔ mem x b.buff := by
    split
    · exact ⟨h.sortedOk ‹_›, fun _ => Iff.rfl⟩
    · exact sortByStart_spec b.buff h.nonempty
  have sp := mergeOverlapping_spec _ hbuf.1
  have mg := merged_spec (fun l r => unionLoop_spec l r 0 0) b.moc h.canon sp.1
  refine ⟨fun _ => trivial, nofun, mg.1, fun x => ?_⟩
  rw [← h.sem, ← hbuf.2, ← sp.2]
  exact (or_false _).to_iff.trans (mg.2 x)

theorem RgInv.flush {cap : Nat} {b : RgBuilder} {pushed : List Rng} (h : RgInv b pushed) :
    RgInv (if b.buff.length = cap then b.drain else b) pushed := by
  split
  · exact h.drain
  · exact h

theorem RgInv.setBuff {b : RgBuilder} {pushed : List Rng} (h : RgInv b pushed) (nr : Rng) (s' : Bool) (buff' : List Rng)
    (hs : s' = true → SortedFrom 0 buff') (hn : ∀ r ∈ buff', r.1 < r.2)
    (hm : ∀ x, mem x buff' ↔ mem x b.buff ∨ mem x [nr]) :
    RgInv { b with sorted := s', buff := buff' } (pushed ++ [nr]) :=
  ⟨hs, hn, h.canon, fun x => by rw [hm, mem_append, ← or_assoc, h.sem]⟩

theorem RgInv.append {b : RgBuilder} {pushed : List Rng} (h : RgInv b pushed) (nr : Rng) (hne : nr.1 < nr.2) (s' : Bool)
    (hs : s' = true → SortedFrom 0 (b.buff ++ [nr])) :
    RgInv { b with sorted := s', buff := b.buff ++ [nr] } (pushed ++ [nr]) :=
  h.setBuff nr s' _ hs
    (fun r hr => (List.mem_append.1 hr).elim (h.nonempty r) fun hr => List.mem_singleton.1 hr ▸ hne)
    (fun x => mem_append x _ _)

theorem RgInv.push {sh cap : Nat} {b : RgBuilder} {pushed : List Rng} (h : RgInv b pushed) (r : Rng)
    (hr : r.1 < r.2) : RgInv (b.push sh cap r) (pushed ++ [degradeRange sh r]) := by
  unfold RgBuilder.push
  rw [if_pos hr]
  unfold RgBuilder.pushNE
  have hne := degradeRange_nonempty sh r hr
  generalize degradeRange sh r = nr at *
  apply RgInv.flush
  obtain ⟨buff, s, m⟩ := b
  rcases List.eq_nil_or_concat buff with rfl | ⟨d, last, rfl⟩
  · exact h.append nr hne _ fun _ => ⟨Nat.zero_le _, hne, trivial⟩
  · simp only [List.concat_eq_append] at h ⊢
    have hlast : last.1 < last.2 := h.nonempty last List.mem_concat_self
    simp only [List.getLast?_concat]
    by_cases hd : (decide (nr.2 < last.1) || decide (last.2 < nr.1)) = true
    · rw [if_pos hd]
      refine h.append nr hne _ fun hs => ?_
      simp only [Bool.and_eq_true, decide_eq_true_eq] at hs
      rw [List.append_assoc]
      exact (h.sortedOk hs.1).append_last ⟨Nat.le_refl _, hlast, Nat.le_of_lt (Nat.lt_trans hlast hs.2), hne, trivial⟩
    · rw [if_neg hd]
      simp only [Bool.or_eq_true, decide_eq_true_eq, not_or] at hd
      rw [ite_lt_min, ite_lt_max]
      unfold setLast
      rw [List.dropLast_concat]
      refine h.setBuff nr _ _ (fun hs => ?_) (fun q hq => ?_) (fun x => ?_)
      · -- the buffer is still declared sorted only if the hull starts where `last` did
        by_cases hlt : nr.1 < last.1
        · rw [if_pos hlt] at hs; cases hs
        · rw [if_neg hlt] at hs
          exact (h.sortedOk hs).append_last
            ⟨Nat.le_min.2 ⟨Nat.le_of_not_lt hlt, Nat.le_refl _⟩, hull_nonempty last nr hlast, trivial⟩
      · rcases List.mem_append.1 hq with hq | hq
        · exact h.nonempty q (List.mem_append_left _ hq)
        · rw [List.mem_singleton.1 hq]; exact hull_nonempty last nr hlast
      · rw [mem_append, mem_append, or_assoc]
        exact or_congr_right (mem_hull last nr x hd.1 hd.2)

/-- Empty ranges are ignored by the (repaired) builder. -/
theorem RgInv.foldl {sh cap : Nat} (rs : List Rng) : ∀ {b : RgBuilder} {pushed : List Rng}, RgInv b pushed →
    RgInv (rs.foldl (RgBuilder.push sh cap) b)
      (pushed ++ (rs.filter fun r => decide (r.1 < r.2)).map (degradeRange sh)) := by
  induction rs with
  | nil => exact fun h => (List.append_nil _).symm ▸ h
  | cons c t ih =>
    intro b pushed h
    rw [List.foldl_cons]
    by_cases hc : c.1 < c.2
    · rw [List.filter_cons, if_pos (decide_eq_true hc), List.map_cons, List.append_cons]
      exact ih (h.push c hc)
    · rw [List.filter_cons, if_neg fun hd => hc (of_decide_eq_true hd), RgBuilder.push, if_neg hc]
      exact ih h

theorem RgInv.intoMoc {b : RgBuilder} {pushed : List Rng} (h : RgInv b pushed) :
    Canon b.intoMoc ∧ ∀ x, mem x b.intoMoc ↔ mem x pushed :=
  ⟨h.drain.canon, fun x => (or_iff_left id).symm.trans (h.drain.sem x)⟩

/-- For every sequence of ranges and every buffer capacity the result is the normal form of the union of the
    non-empty ranges degraded to the builder depth: a right-hand side that mentions neither the order of arrival,
    nor overlaps, nor the capacity. -/
theorem fromMaxdepthRanges_eq_all (sh cap : Nat) (rs : List Rng) :
    fromMaxdepthRanges sh cap rs = normalize ((rs.filter fun r => decide (r.1 < r.2)).map (degradeRange sh)) :=
  have hf := (RgInv.foldl (sh := sh) (cap := cap) (b := {}) (pushed := []) rs
    ⟨fun _ => trivial, nofun, trivial, fun _ => (or_self _).to_iff⟩).intoMoc
  eq_normalize hf.1 hf.2

theorem exists_mem_filter_nonempty {Q : Nat → Prop} (rs : List Rng) :
    (∃ r ∈ rs.filter (fun r => decide (r.1 < r.2)), ∃ y, r.1 ≤ y ∧ y < r.2 ∧ Q y) ↔
      ∃ r ∈ rs, ∃ y, r.1 ≤ y ∧ y < r.2 ∧ Q y := by
  rw [exists_mem_range, exists_mem_range]
  exact exists_congr fun y => and_congr_left' (mem_filter_nonempty y rs)

theorem lt_of_mem_filter_lt (rs : List Rng) : ∀ r ∈ rs.filter (fun r => decide (r.1 < r.2)), r.1 < r.2 :=
  fun _ h => of_decide_eq_true (List.mem_filter.1 h).2

end Moc
