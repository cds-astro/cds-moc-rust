/-
  Lemmas for the CLI model (C19): scaling a MOC to a wider index type.
-/
import MocVerif.Model.Cli
import MocVerif.Lemmas.Canon
import MocVerif.Lemmas.Shift

namespace Moc.Cli
open Moc

def scale (k : Nat) (rs : List Rng) : List Rng := rs.map fun r => (r.1 <<< k, r.2 <<< k)

theorem mem_scale (k : Nat) (rs : List Rng) (x : Nat) : mem x (scale k rs) ↔ mem (x / 2 ^ k) rs := by
  rw [scale, mem_map_iff, mem_iff_exists]
  simp only [shl_le_iff, lt_shl_iff]

theorem canon_scale (k : Nat) (rs : List Rng) (h : Canon rs) : Canon (scale k rs) := by
  have := CanonFrom.map (f := (· <<< k)) (shl_lt_shl k) h
  rwa [Nat.zero_shiftLeft] at this

theorem boundedBy_scale (k ub : Nat) (rs : List Rng) (h : BoundedBy ub rs) :
    BoundedBy (ub <<< k) (scale k rs) :=
  List.forall_mem_map.2 fun r hr => shl_le_shl k _ _ (h r hr)

theorem aligned_scale (k c : Nat) (rs : List Rng) (h : Aligned c rs) :
    Aligned (c <<< k) (scale k rs) :=
  List.forall_mem_map.2 fun r hr => by
    simp only [Nat.shiftLeft_eq]
    exact ⟨Nat.mul_dvd_mul_right (h r hr).1 _, Nat.mul_dvd_mul_right (h r hr).2 _⟩

theorem laterOk_of_length_eq : ∀ (later : List (Nat × Option Nat)) {a b : List Rng},
    a.length = b.length → laterOk a later → laterOk b later
  | [], _, _, _, _ => trivial
  | _ :: t, a, b, e, ⟨h1, h2, h3⟩ =>
    have et : a.tail.length = b.tail.length := by rw [List.length_tail, List.length_tail, e]
    ⟨et ▸ h1, fun n hn => et ▸ h2 n hn, laterOk_of_length_eq t et h3⟩

/-- `ConvertIterator` forwards consistent hints. -/
theorem convertSrc_hintOkAll (k md : Nat) (s : Src) (hs : s.HintOkAll) : (convertSrc k md s).HintOkAll := by
  obtain ⟨⟨hl, hlo, hhi⟩, hlater⟩ := hs
  have len : (convertSrc k md s).items.length = s.items.length := List.length_map _
  refine ⟨⟨?_, len ▸ hlo, fun n hn => len ▸ hhi n hn⟩, laterOk_of_length_eq s.later len.symm hlater⟩
  intro r hr
  obtain ⟨r0, hr0, rfl⟩ := Option.map_eq_some_iff.1 hr
  refine ⟨shl_lt_shl k _ _ (hl r0 hr0).1, fun c hc => ?_⟩
  obtain ⟨c0, hc0, rfl⟩ := List.mem_map.1 hc
  exact shl_le_shl k _ _ ((hl r0 hr0).2 c0 hc0)

theorem convertSrc_items (k md : Nat) (s : Src) : (convertSrc k md s).items = scale k s.items := rfl

theorem promote_spec (q : Qty) (wf wt : Nat) (s : Src) (hs : s.HintOkAll) (cs : Canon s.items) :
    (promote q wf wt s).HintOkAll ∧ Canon (promote q wf wt s).items ∧
    ∀ x, mem x (promote q wf wt s).items ↔ mem (x / 2 ^ (wt - wf)) s.items := by
  unfold promote
  by_cases h : wf = wt
  · subst h
    simp only [↓reduceIte, Nat.sub_self, Nat.pow_zero, Nat.div_one]
    exact ⟨hs, cs, fun _ => trivial⟩
  · simp only [h, ↓reduceIte]
    exact ⟨convertSrc_hintOkAll _ _ s hs, canon_scale _ _ cs, fun x => mem_scale _ _ x⟩

/-- `hk`: the two deepest levels differ by exactly the width difference, which is true of the three quantities
    for 16 / 32 / 64 bits (`promotion_table`). -/
theorem valid_scale (q : Qty) (wf wt d : Nat) (rs : List Rng) (hd : d ≤ q.maxDepth wf)
    (hk : q.dim * q.maxDepth wt = q.dim * q.maxDepth wf + (wt - wf))
    (hv : Valid q wf d rs) : Valid q wt d (scale (wt - wf) rs) := by
  -- the shift from any depth `d` grows by the width difference as well
  have he : q.dim * (q.maxDepth wt - d) = q.dim * (q.maxDepth wf - d) + (wt - wf) := by
    rw [Nat.mul_sub, Nat.mul_sub, hk]
    exact Nat.sub_add_comm (Nat.mul_le_mul_left _ hd)
  have hn : q.nCellsMax wt = q.nCellsMax wf <<< (wt - wf) := by
    rw [Qty.nCellsMax, Qty.nCellsMax, hk, Nat.shiftLeft_add]
  have hc : q.cellSize wt d = q.cellSize wf d <<< (wt - wf) := by
    rw [Qty.cellSize, Qty.cellSize, Qty.shiftFromMax, Qty.shiftFromMax, he, Nat.shiftLeft_add]
  rw [Valid, hn, hc]
  exact ⟨canon_scale _ _ hv.1, boundedBy_scale _ _ _ hv.2.1, aligned_scale _ _ _ hv.2.2⟩

end Moc.Cli
