/-
  Insertion sort, once.  The model's sorts (`sortNat`, `sortB`, `sortBySize`, `sortStable`, and the `sortByStart`
  of `Model/Ranges.lean` — `Codec.sortByStart` of `Model/Codec.lean` is a merge sort and not meant) all
  insert before the first element that the new one should precede.  The facts are stated for any pair of
  functions satisfying those defining equations, which each model function does by `rfl` (`sortStable`, a `foldl`, in
  its `foldr` form on the reversed list).
-/
namespace Moc

variable {α : Type} {p : α → α → Prop} [DecidableRel p] {ins : α → List α → List α} {sort : List α → List α}

structure IsInsert (p : α → α → Prop) [DecidableRel p] (ins : α → List α → List α) : Prop where
  nil : ∀ x, ins x [] = [x]
  cons : ∀ x y t, ins x (y :: t) = if p x y then x :: y :: t else y :: ins x t

structure IsSort (ins : α → List α → List α) (sort : List α → List α) : Prop where
  nil : sort [] = []
  cons : ∀ x t, sort (x :: t) = ins x (sort t)

theorem isSort_foldr (ins : α → List α → List α) : IsSort ins (fun l => l.foldr ins []) := ⟨rfl, fun _ _ => rfl⟩

theorem IsInsert.perm (h : IsInsert p ins) (x : α) : ∀ l, (ins x l).Perm (x :: l)
  | [] => h.nil x ▸ .refl _
  | y :: t => by
    rw [h.cons]
    split
    · exact .refl _
    · exact ((h.perm x t).cons y).trans (.swap x y t)

theorem IsInsert.pairwise (h : IsInsert p ins) {R : α → α → Prop} (h1 : ∀ x y, p x y → R x y)
    (h2 : ∀ x y, ¬ p x y → R y x) (tr : ∀ a b c, R a b → R b c → R a c) (x : α) :
    ∀ l, l.Pairwise R → (ins x l).Pairwise R
  | [], _ => h.nil x ▸ List.pairwise_singleton R x
  | y :: t, hp => by
    obtain ⟨hy, ht⟩ := List.pairwise_cons.1 hp
    rw [h.cons]
    split
    · next hxy =>
      exact List.pairwise_cons.2 ⟨List.forall_mem_cons.2 ⟨h1 _ _ hxy, fun z hz => tr _ _ _ (h1 _ _ hxy) (hy z hz)⟩, hp⟩
    · next hxy =>
      refine List.pairwise_cons.2 ⟨fun z hz => ?_, h.pairwise h1 h2 tr x t ht⟩
      exact (List.mem_cons.1 ((h.perm x t).mem_iff.1 hz)).elim (· ▸ h2 _ _ hxy) (hy z)

theorem IsSort.perm (hs : IsSort ins sort) (h : IsInsert p ins) : ∀ l, (sort l).Perm l
  | [] => by rw [hs.nil]
  | x :: t => by rw [hs.cons]; exact (h.perm x _).trans ((hs.perm h t).cons x)

theorem IsSort.pairwise (hs : IsSort ins sort) (h : IsInsert p ins) {R : α → α → Prop} (h1 : ∀ x y, p x y → R x y)
    (h2 : ∀ x y, ¬ p x y → R y x) (tr : ∀ a b c, R a b → R b c → R a c) : ∀ l, (sort l).Pairwise R
  | [] => by rw [hs.nil]; exact .nil
  | x :: t => by rw [hs.cons]; exact h.pairwise h1 h2 tr x _ (hs.pairwise h h1 h2 tr t)

end Moc
