/-
  C05 — the depth-by-depth NUNIQ iterator: soundness and completeness of one pass, exact cover of the
  whole iteration; the cells it emits are aligned blocks inside `M`, maximal, and cover `M`: with
  `maximal_unique` they are THE family of maximal aligned cells of `M`.
-/
import MocVerif.Model.UniqIter
import MocVerif.Lemmas.Blocks
import MocVerif.Lemmas.Sweep
import MocVerif.Lemmas.SetOps

namespace Moc.UniqIter
open Moc

theorem pass_cons (k : Nat) (r : Rng) (t : List Rng) :
    pass k (r :: t) = if down k r.2 > up k r.1 then (up k r.1, down k r.2) :: pass k t else pass k t := rfl

theorem pass_eq_filterMap (k : Nat) (rs : List Rng) :
    pass k rs = rs.filterMap fun r => if down k r.2 > up k r.1 then some (up k r.1, down k r.2) else none := by
  induction rs with
  | nil => rfl
  | cons r t ih =>
    rw [pass_cons, ih, List.filterMap_cons]
    by_cases h : down k r.2 > up k r.1
    · rw [if_pos h, if_pos h]
    · rw [if_neg h, if_neg h]

theorem pass_sound (k : Nat) : ∀ (rs : List Rng) (b : Rng), b ∈ pass k rs →
    ∃ r ∈ rs, r.1 ≤ b.1 ∧ b.1 < b.2 ∧ b.2 ≤ r.2 ∧ 2 ^ k ∣ b.1 ∧ 2 ^ k ∣ b.2 := by
  intro rs b hb
  rw [pass_eq_filterMap] at hb
  obtain ⟨r, hr, h⟩ := List.mem_filterMap.1 hb
  by_cases hgt : down k r.2 > up k r.1
  · rw [if_pos hgt] at h
    cases h
    exact ⟨r, hr, (up_spec k r.1).1, hgt, (down_spec k r.2).1, (up_spec k r.1).2.2, (down_spec k r.2).2.2⟩
  · rw [if_neg hgt] at h
    cases h

theorem pass_complete (k : Nat) : ∀ (rs : List Rng) (r : Rng), r ∈ rs → ∀ p, 2 ^ k ∣ p → r.1 ≤ p → p + 2 ^ k ≤ r.2 →
    ∃ b ∈ pass k rs, b.1 ≤ p ∧ p + 2 ^ k ≤ b.2 := by
  intro rs r hr p hp h1 h2
  have hu := up_le_of_dvd k r.1 p hp h1
  have hd := le_down_of_dvd k (p + 2 ^ k) r.2 (Nat.dvd_add hp (Nat.dvd_refl _)) h2
  have hgt : down k r.2 > up k r.1 :=
    Nat.lt_of_le_of_lt hu (Nat.lt_of_lt_of_le (Nat.lt_add_of_pos_right (Nat.two_pow_pos k)) hd)
  refine ⟨(up k r.1, down k r.2), ?_, hu, hd⟩
  rw [pass_eq_filterMap]
  exact List.mem_filterMap.2 ⟨r, hr, if_pos hgt⟩

theorem pass_zero (rs : List Rng) (h : ∀ r ∈ rs, r.1 < r.2) : pass 0 rs = rs := by
  induction rs with
  | nil => rfl
  | cons r t ih =>
    -- `up 0 a` and `down 0 a` reduce to `a`
    exact (if_pos (h r List.mem_cons_self)).trans
      (congrArg (r :: ·) (ih fun x hx => h x (List.mem_cons_of_mem _ hx)))

theorem mem_pass (k : Nat) (rs : List Rng) (x : Nat) (h : mem x (pass k rs)) : mem x rs := by
  obtain ⟨b, hb, h1, h2⟩ := (mem_iff_exists x _).1 h
  obtain ⟨r, hr, g1, _, g3, _, _⟩ := pass_sound k rs b hb
  exact (mem_iff_exists x rs).2 ⟨r, hr, Nat.le_trans g1 h1, Nat.lt_of_lt_of_le h2 g3⟩

/-- `difference R (normalize (pass k R))` is what `run` hands to the next pass. -/
theorem rest_spec (k : Nat) (R : List Rng) (hc : Canon R) :
    Canon (difference R (normalize (pass k R))) ∧
    ∀ x, mem x (difference R (normalize (pass k R))) ↔ mem x R ∧ ¬ mem x (pass k R) :=
  have hn := normalize_spec (pass k R)
  have hd := difference_spec R (normalize (pass k R)) hc hn.1
  ⟨hd.1, fun x => by rw [hd.2 x, hn.2 x]⟩

theorem run_mem (g : Nat) : ∀ (j : Nat) (R : List Rng) (e : Nat × Rng), e ∈ run g j R →
    e.1 ≤ j ∧ ∃ R', e.2 ∈ pass (g * e.1) R' := by
  intro j
  induction j with
  | zero =>
    intro R e he
    obtain ⟨b, hb, rfl⟩ := List.mem_map.1 he
    exact ⟨Nat.le_refl _, R, hb⟩
  | succ j ih =>
    intro R e he
    rcases List.mem_append.1 he with he | he
    · obtain ⟨b, hb, rfl⟩ := List.mem_map.1 he
      exact ⟨Nat.le_refl _, R, hb⟩
    · exact (ih _ e he).imp Nat.le_succ_of_le id

theorem run_aligned (g : Nat) : ∀ (j : Nat) (R : List Rng) (e : Nat × Rng), e ∈ run g j R →
    e.2.1 < e.2.2 ∧ 2 ^ (g * e.1) ∣ e.2.1 ∧ 2 ^ (g * e.1) ∣ e.2.2 := by
  intro j R e he
  obtain ⟨_, R', hb⟩ := run_mem g j R e he
  obtain ⟨_, _, _, h2, _, h4, h5⟩ := pass_sound _ R' e.2 hb
  exact ⟨h2, h4, h5⟩

theorem map_snd_tag (j : Nat) (l : List Rng) : (l.map fun b => (j, b)).map Prod.snd = l := by
  rw [List.map_map]
  exact List.map_id l

theorem run_cover (g : Nat) : ∀ (J : Nat) (rs : List Rng), Canon rs →
    ∀ x, mem x rs ↔ ∃ e ∈ run g J rs, e.2.1 ≤ x ∧ x < e.2.2 := by
  intro J
  induction J with
  | zero =>
    intro rs hc x
    -- the pass with cells of one index emits the ranges themselves
    rw [← mem_map_iff Prod.snd, run, map_snd_tag, pass_zero rs (canon_nonempty hc)]
  | succ j ih =>
    intro rs hc x
    have hr := rest_spec (g * (j + 1)) rs hc
    -- what the first pass covers, and what is left of `rs` for the other passes
    rw [← mem_map_iff Prod.snd, run, List.map_append, map_snd_tag, mem_append, mem_map_iff Prod.snd, ← ih _ hr.1 x, hr.2 x]
    exact ⟨fun hx => (Classical.em _).imp_right fun hb => ⟨hx, hb⟩, fun h => h.elim (mem_pass _ rs x) And.left⟩

theorem interval_in_range : ∀ (l : List Rng) (lo : Nat), CanonFrom lo l → ∀ p q, p < q →
    (∀ x, p ≤ x → x < q → mem x l) → ∃ r ∈ l, r.1 ≤ p ∧ q ≤ r.2 :=
  fun l lo hc p q hpq => (covered_iff_one_range l lo hc p q hpq).1

theorem noBlk_after_pass (k : Nat) (R : List Rng) (hc : Canon R) :
    NoBlk k (difference R (normalize (pass k R))) := by
  intro p hp hblk
  have hr := rest_spec k R hc
  have hpos : p < p + 2 ^ k := Nat.lt_add_of_pos_right (Nat.two_pow_pos k)
  -- the cell lies inside `R`, hence inside one range of `R`
  obtain ⟨r, hr', hr1, hr2⟩ := (covered_iff_one_range R 0 hc p (p + 2 ^ k) hpos).1
    fun x h1 h2 => ((hr.2 x).1 (hblk x h1 h2)).1
  obtain ⟨b, hb, hb1, hb2⟩ := pass_complete k R r hr' p hp hr1 hr2
  -- so `p` was removed
  exact ((hr.2 p).1 (hblk p (Nat.le_refl _) hpos)).2
    ((mem_iff_exists p _).2 ⟨b, hb, hb1, Nat.lt_of_lt_of_le hpos hb2⟩)

theorem removed_block (k : Nat) (R : List Rng) (x : Nat) (hx : mem x (pass k R)) :
    ∀ y, down k x ≤ y → y < down k x + 2 ^ k → mem y (pass k R) := by
  rw [mem_iff_exists] at hx
  obtain ⟨b, hb, hb1, hb2⟩ := hx
  obtain ⟨r, _, _, _, _, d1, d2⟩ := pass_sound k R b hb
  intro y hy1 hy2
  -- the ends of `b` are multiples of `2^k` on both sides of `x`
  exact (mem_iff_exists y _).2 ⟨b, hb, Nat.le_trans (le_down_of_dvd k b.1 x d1 hb1) hy1,
    Nat.lt_of_lt_of_le hy2 (down_add_le_of_dvd k x b.2 d2 hb2)⟩

/-- Maximality carries across one pass: a cell of level ≤ `j + 1` that meets the remaining set without lying
    inside it does not lie inside the set before the pass either. -/
theorem transfer (g j : Nat) (R : List Rng) (hc : Canon R) (i : Nat) (hi : i + 1 ≤ j + 1) (p y : Nat)
    (hp : 2 ^ (g * (i + 1)) ∣ p) (hy : p ≤ y ∧ y < p + 2 ^ (g * (i + 1)))
    (hyin : mem y (difference R (normalize (pass (g * (j + 1)) R))))
    (hnot : ¬ BlockIn (g * (i + 1)) p (difference R (normalize (pass (g * (j + 1)) R)))) :
    ¬ BlockIn (g * (i + 1)) p R := by
  intro hall
  apply hnot
  intro x hx1 hx2
  have hr := rest_spec (g * (j + 1)) R hc
  refine (hr.2 x).2 ⟨hall x hx1 hx2, ?_⟩
  intro hxb
  -- `x` was removed with its whole level-(j+1) cell, which contains the cell at `p`, hence `y`
  have hds := down_spec (g * (j + 1)) x
  have hnest := block_nest (g * (i + 1)) (g * (j + 1)) p (down (g * (j + 1)) x) x (Nat.mul_le_mul_left g hi)
    hp hds.2.2 ⟨hx1, hx2⟩ ⟨hds.1, hds.2.1⟩
  exact ((hr.2 y).1 hyin).2 (removed_block (g * (j + 1)) R x hxb y (Nat.le_trans hnest.1 hy.1)
    (Nat.lt_of_lt_of_le hy.2 hnest.2))

/-- Every cell a (sub-)iteration emits is maximal.  At the first level `j` this needs the input to hold no cell one
    level up, the hypothesis the induction carries; below, the passes have seen to it (`noBlk_after_pass`). -/
theorem run_maximal_gen (g : Nat) : ∀ (j : Nat) (R : List Rng), Canon R →
    ∀ e ∈ run g j R, (e.1 = j → NoBlk (g * (j + 1)) R) →
    ∀ p y, 2 ^ (g * (e.1 + 1)) ∣ p → p ≤ y ∧ y < p + 2 ^ (g * (e.1 + 1)) →
      e.2.1 ≤ y ∧ y < e.2.2 → ¬ BlockIn (g * (e.1 + 1)) p R := by
  intro j
  induction j with
  | zero =>
    intro R _ e he hno p y hp _ _
    obtain ⟨b, _, rfl⟩ := List.mem_map.1 he
    exact hno rfl p hp
  | succ j ih =>
    intro R hc e he hno p y hp hy hye
    rcases List.mem_append.1 he with he | he
    · obtain ⟨b, _, rfl⟩ := List.mem_map.1 he
      exact hno rfl p hp
    · have hr := rest_spec (g * (j + 1)) R hc
      exact transfer g j R hc e.1 (Nat.succ_le_succ (run_mem g j _ e he).1) p y hp hy
        ((run_cover g j _ hr.1 y).2 ⟨e, he, hye⟩)
        (ih _ hr.1 e he (fun _ => noBlk_after_pass (g * (j + 1)) R hc) p y hp hy hye)

/-- `(j, p)` is one of the cells of an emitted range of level `j`. -/
def Emitted (g J : Nat) (M : List Rng) (j p : Nat) : Prop :=
  ∃ e ∈ run g J M, e.1 = j ∧ 2 ^ (g * j) ∣ p ∧ e.2.1 ≤ p ∧ p + 2 ^ (g * j) ≤ e.2.2

theorem emitted_block (g J : Nat) (M : List Rng) (hc : Canon M) (j p : Nat) (h : Emitted g J M j p) :
    MaxBlock g J M j p := by
  obtain ⟨e, he, rfl, hdv, h1, h2⟩ := h
  refine ⟨hdv, (run_mem g J M e he).1, fun x hx1 hx2 =>
    (run_cover g J M hc x).2 ⟨e, he, Nat.le_trans h1 hx1, Nat.lt_of_lt_of_le hx2 h2⟩, fun hlt => ?_⟩
  -- the parent block meets the emitted range at `p`
  have hds := down_spec (g * (e.1 + 1)) p
  exact run_maximal_gen g J M hc e he (fun h => absurd h (Nat.ne_of_lt hlt)) (parentStart g e.1 p) p hds.2.2
    ⟨hds.1, hds.2.1⟩ ⟨h1, Nat.lt_of_lt_of_le (Nat.lt_add_of_pos_right (Nat.two_pow_pos _)) h2⟩

theorem emitted_covers (g J : Nat) (M : List Rng) (hc : Canon M) (x : Nat) (hx : mem x M) :
    ∃ j p, Emitted g J M j p ∧ p ≤ x ∧ x < p + 2 ^ (g * j) := by
  obtain ⟨e, he, h1, h2⟩ := (run_cover g J M hc x).1 hx
  obtain ⟨_, a1, a2⟩ := run_aligned g J M e he
  -- the ends of the emitted range are multiples of the cell size on both sides of `x`
  have hds := down_spec (g * e.1) x
  exact ⟨e.1, down (g * e.1) x,
    ⟨e, he, rfl, hds.2.2, le_down_of_dvd _ _ _ a1 h1, down_add_le_of_dvd _ _ _ a2 h2⟩, hds.1, hds.2.1⟩

theorem emitted_iff_maxBlock (g J : Nat) (M : List Rng) (hc : Canon M) (j p : Nat) :
    Emitted g J M j p ↔ MaxBlock g J M j p :=
  maxBlock_iff_of_cover g J M _ (emitted_block g J M hc) (emitted_covers g J M hc) j p

end Moc.UniqIter
