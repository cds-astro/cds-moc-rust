/-
  Mass (enclosed value) of the cumulative selection (C20): the four recursive descents as one parametrised
  descent, what a threshold takes of the cell it falls in, and the two stages of `selectWithMass`.
-/
import MocVerif.Model.Valued
import MocVerif.Lemmas.ValuedLoops
import MocVerif.Lemmas.InsertSort

namespace Moc.Mass
open Moc Moc.C20

/-- Value of a piece `c` (a descendant, at depth `c.1`, of a map cell of value `v` and depth `d0`). -/
def pieceVal (v d0 : Nat) (c : Cell) : Nat := v / 4 ^ (c.1 - d0)
def massOf (v d0 : Nat) (cs : List Cell) : Nat := (cs.map (pieceVal v d0)).sum

theorem piece_pos {fuel v : Nat} (h : 4 ^ fuel ∣ v) (hv : 0 < v) : 0 < v / 4 ^ fuel :=
  Nat.div_pos (Nat.le_of_dvd hv h) (Nat.pow_pos (by decide))

theorem massOf_append (v d0 : Nat) (a b : List Cell) : massOf v d0 (a ++ b) = massOf v d0 a + massOf v d0 b := by
  simp only [massOf, List.map_append, List.sum_append]

theorem massOf_children (v d0 k : Nat) (f : Nat → Nat) :
    massOf v d0 ((List.range k).map fun i => (d0 + 1, f i)) = k * (v / 4) := by
  induction k with
  | zero => exact (Nat.zero_mul _).symm
  | succ k ih =>
    rw [List.range_succ, List.map_append, massOf_append, ih]
    simp only [massOf, pieceVal, List.map_cons, List.map_nil, List.sum_cons, List.sum_nil, Nat.add_sub_cancel_left,
      Nat.pow_one, Nat.add_zero, Nat.succ_mul]

theorem pow_depth_succ {d c : Nat} (h : d + 1 ≤ c) : 4 ^ (c - d) = 4 ^ (c - (d + 1)) * 4 := by
  rw [← Nat.pow_succ, Nat.sub_add_eq, Nat.succ_eq_add_one, Nat.sub_add_cancel (Nat.le_sub_of_add_le' h)]

theorem pieceVal_shift (v d0 : Nat) (c : Cell) (hc : d0 + 1 ≤ c.1) : pieceVal v d0 c = pieceVal (v / 4) (d0 + 1) c := by
  unfold pieceVal
  rw [pow_depth_succ hc, Nat.mul_comm, ← Nat.div_div_eq_div_mul]

theorem massOf_shift (v d0 : Nat) (cs : List Cell) (h : ∀ c ∈ cs, d0 + 1 ≤ c.1) :
    massOf v d0 cs = massOf (v / 4) (d0 + 1) cs :=
  congrArg List.sum (List.map_congr_left fun c hc => pieceVal_shift v d0 c (h c hc))

theorem massOf_self (v d i : Nat) : massOf v d [(d, i)] = v := by
  simp only [massOf, pieceVal, List.map_cons, List.map_nil, List.sum_cons, List.sum_nil, Nat.sub_self, Nat.pow_zero,
    Nat.div_one, Nat.add_zero]

/-- `b` exceeds `a` by less than `u` (by nothing when `u = 0`). -/
def Within (a b u : Nat) : Prop := a ≤ b ∧ b ≤ a + u ∧ (b < a + u ∨ u = 0)

theorem Within.refl (a u : Nat) : Within a a u :=
  ⟨Nat.le_refl _, Nat.le_add_right _ _, (Nat.eq_zero_or_pos u).symm.imp Nat.lt_add_of_pos_right id⟩

theorem Within.add {a b u a' b' u' : Nat} (h : Within a b u) (h' : Within a' b' u') :
    Within (a + a') (b + b') (u + u') := by
  obtain ⟨h1, h2, h3⟩ := h
  obtain ⟨h1', h2', h3'⟩ := h'
  rw [Within, Nat.add_add_add_comm a a' u u']
  refine ⟨Nat.add_le_add h1 h1', Nat.add_le_add h2 h2', ?_⟩
  rcases h3 with h3 | rfl
  · exact .inl (Nat.add_lt_add_of_lt_of_le h3 h2')
  · rcases h3' with h3' | rfl
    · exact .inl (Nat.add_lt_add_of_le_of_lt h2 h3')
    · exact .inr rfl

/-- `m` is the value `T` up to one boundary piece `u`: not above it in strict mode, not below it otherwise,
    and equal to it when there is no boundary piece. -/
def Bracket (strict : Bool) (T m u : Nat) : Prop :=
  (strict = true → Within m T u) ∧ (strict = false → Within T m u)

theorem Bracket.exact (s : Bool) (T u : Nat) : Bracket s T T u := ⟨fun _ => .refl _ _, fun _ => .refl _ _⟩

theorem Bracket.add {s : Bool} {T m u T' m' u' : Nat} (h : Bracket s T m u) (h' : Bracket s T' m' u') :
    Bracket s (T + T') (m + m') (u + u') :=
  ⟨fun hs => (h.1 hs).add (h'.1 hs), fun hs => (h.2 hs).add (h'.2 hs)⟩

theorem Bracket.shift {s : Bool} {T m u : Nat} (a : Nat) (h : Bracket s T m u) : Bracket s (a + T) (a + m) u :=
  Nat.zero_add u ▸ (Bracket.exact s a 0).add h

theorem Bracket.lt_of_pos {s : Bool} {T m u : Nat} (h : Bracket s T m u) (hu : 0 < u) :
    (s = true → m ≤ T ∧ T < m + u) ∧ (s = false → T ≤ m ∧ m < T + u) :=
  ⟨fun hs => ⟨(h.1 hs).1, (h.1 hs).2.2.resolve_right (Nat.ne_of_gt hu)⟩,
   fun hs => ⟨(h.2 hs).1, (h.2 hs).2.2.resolve_right (Nat.ne_of_gt hu)⟩⟩

/-- What is to be kept of a cell of value `v` when the threshold lies `t` above its lower end: the part below
    the threshold at the upper boundary of the selection, the part above it at the lower boundary. -/
def kept (lower : Bool) (v t : Nat) : Nat := bif lower then v - t else t

theorem Bracket.cell (s lower : Bool) {v t : Nat} (h0 : 0 < t) (ht : t < v) :
    Bracket s (kept lower v t) (if s then 0 else v) v := by
  have hT : 0 < kept lower v t ∧ kept lower v t < v := by
    cases lower
    · exact ⟨h0, ht⟩
    · exact ⟨Nat.sub_pos_of_lt ht, Nat.sub_lt (Nat.lt_trans h0 ht) h0⟩
  generalize kept lower v t = T at hT
  cases s
  · exact ⟨nofun, fun _ => ⟨Nat.le_of_lt hT.2, Nat.le_add_left _ _, .inl (Nat.lt_add_of_pos_left hT.1)⟩⟩
  · refine ⟨fun _ => ?_, nofun⟩
    show Within 0 T v
    rw [Within, Nat.zero_add]
    exact ⟨Nat.zero_le _, Nat.le_of_lt hT.2, .inl hT.2⟩

/-- The four recursive descents of `valuedcell.rs` are one function: `lower` says which side of the target is
    kept (the sub-cells after the one descended into, instead of those before it), `ix` maps the rank of a
    sub-cell in the traversal to its index.  `recursive_descent` is `descentG false id`,
    `reverse_recursive_descent` is `descentG false (3 - ·)`, `recursive_descent_rev` is `descentG true id`,
    `reverse_recursive_descent_rev` is `descentG true (3 - ·)`. -/
def descentG (lower : Bool) (ix : Nat → Nat) : Nat → Nat → Nat → Nat → Bool → Nat → Option (List Cell)
  | 0, d, i, v, s, t =>
    if v ≥ t then
      (if t = 0 then some (bif lower then [(d, i)] else [])
       else some (if (bif lower then v ≠ t && !s else v = t || !s) then [(d, i)] else []))
    else none
  | f + 1, d, i, v, s, t =>
    if v ≥ t then
      if t = 0 then some (bif lower then [(d, i)] else []) else
      let (k, t') := takeSub (v / 4) 5 0 t
      if k < 4 then
        (descentG lower ix f (d + 1) (i * 4 + ix k) (v / 4) s t').map fun rest =>
          bif lower then rest ++ ((List.range (3 - k)).map fun j => (d + 1, i * 4 + ix (k + 1 + j)))
          else ((List.range k).map fun j => (d + 1, i * 4 + ix j)) ++ rest
      else none
    else none

theorem descent_eq : descent = descentG false id := by
  funext f; induction f with
  | zero => rfl
  | succ f ih => funext d i v s t; rw [descentG, ← ih]; rfl

theorem descentR_eq : descentR = descentG false (3 - ·) := by
  funext f; induction f with
  | zero => rfl
  | succ f ih => funext d i v s t; rw [descentG, ← ih]; rfl

theorem descentRev_eq : descentRev = descentG true id := by
  funext f; induction f with
  | zero => rfl
  | succ f ih => funext d i v s t; rw [descentG, ← ih]; simp only [id, ← Nat.add_assoc]; rfl

theorem descentRRev_eq : descentRRev = descentG true (3 - ·) := by
  funext f; induction f with
  | zero => rfl
  | succ f ih => funext d i v s t; rw [descentG, ← ih]; simp only [← Nat.sub_sub]; rfl

/-- The two selections by `rev` made in `valued_cells_to_moc_with_opt`. -/
theorem descents_eq (rev : Bool) :
    (if rev then descentR else descent) = descentG false (if rev then (3 - ·) else id) ∧
    (if rev then descentRRev else descentRev) = descentG true (if rev then (3 - ·) else id) := by
  cases rev
  · exact ⟨descent_eq, descentRev_eq⟩
  · exact ⟨descentR_eq, descentRRev_eq⟩

theorem forall_mem_ite_singleton {α : Type} {Q : α → Prop} (p : Prop) [Decidable p] {a : α} (h : Q a) :
    ∀ c ∈ (if p then [a] else []), Q c := by
  intro c hc
  by_cases hp : p
  · rw [if_pos hp] at hc; rw [List.mem_singleton.1 hc]; exact h
  · rw [if_neg hp] at hc; cases hc

/-- Induction principle for the pieces that a descent returns (`P d i c`: the piece `c` seen from the cell
    `(d, i)`). -/
theorem descentG_pieces (lower : Bool) (ix : Nat → Nat) (P : Nat → Nat → Cell → Prop)
    (self : ∀ d i, P d i (d, i)) (child : ∀ d i k, k < 4 → P d i (d + 1, i * 4 + ix k))
    (up : ∀ d i k c, k < 4 → P (d + 1) (i * 4 + ix k) c → P d i c) :
    ∀ (f d i v : Nat) (s : Bool) (t : Nat) (cs : List Cell),
    descentG lower ix f d i v s t = some cs → ∀ c ∈ cs, P d i c := by
  intro f d i v s t
  -- the cases of `descentG` in the order of its text: 1–3 without fuel (target 0, target inside the cell, target
  -- beyond it), 4–7 with fuel (target 0, descent into quarter `k < 4`, no such quarter, target beyond the cell)
  fun_induction descentG lower ix f d i v s t with
  | case1 d i | case4 _ d i =>
    rintro _ ⟨⟩
    rw [Bool.cond_eq_ite]
    exact forall_mem_ite_singleton _ (self d i)
  | case2 d i =>
    rintro _ ⟨⟩
    exact forall_mem_ite_singleton _ (self d i)
  | case3 | case6 | case7 => nofun
  | case5 f d i v s t _ _ k t' _ hk ih =>
    intro cs h
    obtain ⟨rest, hd, rfl⟩ := Option.map_eq_some_iff.1 h
    have hrest := fun c hc => up d i k c hk (ih rest hd c hc)
    -- the sub-cells taken whole have ranks below 4, whichever side they are on
    have hsib : ∀ (n : Nat) (g : Nat → Nat), (∀ j < n, g j < 4) →
        ∀ c ∈ (List.range n).map (fun j => (d + 1, i * 4 + ix (g j))), P d i c := by
      intro n g hg c hc
      obtain ⟨j, hj, rfl⟩ := List.mem_map.1 hc
      exact child d i _ (hg j (List.mem_range.1 hj))
    cases lower
    · exact List.forall_mem_append.2 ⟨hsib k id fun j hj => Nat.lt_trans hj hk, hrest⟩
    · exact List.forall_mem_append.2 ⟨hrest, hsib (3 - k) (k + 1 + ·) fun j hj =>
        Nat.add_right_comm k j 1 ▸ Nat.succ_lt_succ (Nat.add_lt_of_lt_sub' hj)⟩

theorem descentG_depth (lower : Bool) (ix : Nat → Nat) {f d i v : Nat} {s : Bool} {t : Nat} {cs : List Cell}
    (h : descentG lower ix f d i v s t = some cs) : ∀ c ∈ cs, d ≤ c.1 :=
  descentG_pieces lower ix (fun d _ c => d ≤ c.1) (fun _ _ => Nat.le_refl _) (fun _ _ _ _ => Nat.le_succ _)
    (fun _ _ _ _ _ => Nat.le_of_succ_le) _ _ _ _ _ _ _ h

/-- One descent level: `k < 4` whole quarters lie below the target, `3 - k` above it, the target in the one left. -/
theorem level_facts {f v t k t' : Nat} (hr : takeSub (v / 4) 5 0 t = (k, t')) (hdvd : 4 ^ (f + 1) ∣ v) (ht : t < v) :
    4 ^ f ∣ v / 4 ∧ k < 4 ∧ t' < v / 4 ∧
      ∀ lower, kept lower v t = (bif lower then 3 - k else k) * (v / 4) + kept lower (v / 4) t' := by
  obtain ⟨m, rfl⟩ := hdvd
  have hv : 4 ^ (f + 1) * m = 4 * (4 ^ f * m) := by rw [Nat.pow_succ, Nat.mul_right_comm, Nat.mul_comm]
  rw [hv] at ht hr ⊢
  rw [Nat.mul_div_cancel_left _ (by decide : 0 < 4)] at hr ⊢
  have hdvd' : 4 ^ f ∣ 4 ^ f * m := Nat.dvd_mul_right _ _
  generalize 4 ^ f * m = q at *
  -- fuel 5 = one round per sub-cell and one more, which would find `k = 4`: since `k < 4 < 5` the loop was not cut
  -- short by the fuel, and its remainder is below a quarter
  obtain ⟨n, _, hr', -, h3, h4⟩ := takeSub_eq q 5 0 t
  rw [hr, Nat.zero_add] at hr'
  cases hr'
  -- four rounds would already exhaust `v = 4 * q > t`
  have hk4 : k < 4 := Nat.lt_of_mul_lt_mul_right (Nat.lt_of_le_of_lt (Nat.le.intro h3.symm) ht)
  have hlt : t' < q := h4 (Nat.lt_succ_of_lt hk4)
  refine ⟨hdvd', hk4, hlt, fun lower => ?_⟩
  cases lower
  · exact h3
  · show 4 * q - t = (3 - k) * q + (q - t')
    apply Nat.sub_eq_of_eq_add
    rw [h3, Nat.add_add_add_comm, ← Nat.add_mul, Nat.sub_add_cancel (Nat.le_of_lt_succ hk4),
      Nat.sub_add_cancel (Nat.le_of_lt hlt)]
    exact Nat.succ_mul 3 q

/-- All four descents at once: on a dyadic cell value `v` and for a target `t < v` no assertion fails, and
    the value of the pieces meets what is to be kept of the cell to within one deepest piece `v / 4 ^ f`. -/
theorem descentG_spec (lower : Bool) (ix : Nat → Nat) : ∀ (f d i v : Nat) (s : Bool) (t : Nat),
    4 ^ f ∣ v → t < v → ∃ cs, descentG lower ix f d i v s t = some cs ∧
      Bracket s (kept lower v t) (massOf v d cs) (v / 4 ^ f) := by
  intro f d i v s t
  fun_induction descentG lower ix f d i v s t with
  | case1 | case4 =>
    refine fun _ _ => ⟨_, rfl, ?_⟩
    cases lower
    · exact Bracket.exact ..
    · rw [cond_true, massOf_self]; exact Bracket.exact ..
  | case2 d i v s t _ h0 =>
    intro _ ht
    refine ⟨if s then [] else [(d, i)], ?_, ?_⟩
    · have hne : v ≠ t := Nat.ne_of_gt ht
      cases lower <;> cases s <;> simp [hne]
    · rw [apply_ite (massOf v d), massOf_self, Nat.pow_zero, Nat.div_one]
      exact Bracket.cell s lower (Nat.pos_of_ne_zero h0) ht
  | case3 | case7 => rename_i h; exact fun _ ht => absurd (Nat.le_of_lt ht) h
  | case6 => rename_i hr hk; exact fun hdvd ht => absurd (level_facts hr hdvd ht).2.1 hk
  | case5 f d i v s t _ _ k t' hr hk ih =>
    intro hdvd ht
    obtain ⟨hdvd', -, hlt, hkept⟩ := level_facts hr hdvd ht
    obtain ⟨rest, hd, hb⟩ := ih hdvd' hlt
    rw [hd]
    refine ⟨_, rfl, ?_⟩
    dsimp only
    rw [Nat.div_div_eq_div_mul, ← Nat.pow_succ'] at hb
    -- the whole sub-cells on the kept side add the same quarters to the pieces and to what is to be kept
    have hB := hb.shift ((bif lower then 3 - k else k) * (v / 4))
    rw [← hkept lower] at hB
    have hshift := massOf_shift v d rest (descentG_depth lower ix hd)
    cases lower with
    | false =>
      rw [cond_false, massOf_append, massOf_children v d k (fun j => i * 4 + ix j), hshift]
      exact hB
    | true =>
      rw [cond_true, massOf_append, massOf_children v d (3 - k) (fun j => i * 4 + ix (k + 1 + j)), hshift,
        Nat.add_comm (massOf _ _ _)]
      exact hB

theorem descentG_bracket {lower : Bool} {ix : Nat → Nat} {f d i v : Nat} {s : Bool} {t : Nat} {cs : List Cell}
    (h : descentG lower ix f d i v s t = some cs) (hdvd : 4 ^ f ∣ v) (ht : t < v) :
    Bracket s (kept lower v t) (massOf v d cs) (v / 4 ^ f) := by
  obtain ⟨cs', h', hb⟩ := descentG_spec lower ix f d i v s t hdvd ht
  cases h.symm.trans h'
  exact hb

def deepest (maxDepth : Nat) (c : VCell) : Nat := c.val / 4 ^ (maxDepth - c.depth)

def sortedOf (asc : Bool) (cells : List VCell) : List VCell :=
  if asc then sortStable (fun y x => decide (y.dens > x.dens)) cells
  else sortStable (fun y x => decide (y.dens < x.dens)) cells

def maxDepthOf (maxDepth : Nat) (cells : List VCell) : Nat :=
  max maxDepth (cells.foldl (fun m c => max m c.depth) 0)

/-- Lower threshold: `(acc after the boundary, selected pieces, remaining cells, value of the pieces, one
    boundary piece)`. -/
def lowStage (md : Nat) (sorted : List VCell) (from_ : Nat) (strict noSplit rev : Bool) :
    Option (Nat × List Cell × List VCell × Nat × Nat) :=
  let (acc, _, rest) := scanWhole from_ 0 sorted
  match rest with
  | c :: rest' =>
    if acc < from_ then
      if noSplit then some (acc + c.val, (if strict then [] else [(c.depth, c.idx)]), rest',
        (if strict then 0 else c.val), c.val)
      else
        ((if rev then descentRRev else descentRev) (md - c.depth) c.depth c.idx c.val strict (from_ - acc)).map
          fun cs => (acc + c.val, cs, rest', massOf c.val c.depth cs, deepest md c)
    else some (acc, [], rest, 0, 0)
  | [] => some (acc, [], [], 0, 0)

def highStage (md to : Nat) (strict noSplit rev : Bool) (st : Nat × List Cell × List VCell × Nat × Nat) :
    Option (List Cell × Nat × Nat × Nat) :=
  let (acc, lowCells, rest, mLow, uLow) := st
  let (acc2, whole, rest2) := scanWhole to acc rest
  let wholeCells := whole.map fun c => (c.depth, c.idx)
  let mWhole := acc2 - acc
  match rest2 with
  | c :: _ =>
    if acc2 < to then
      if noSplit then some (lowCells ++ wholeCells ++ (if strict then [] else [(c.depth, c.idx)]),
        mLow + mWhole + (if strict then 0 else c.val), uLow, c.val)
      else
        ((if rev then descentR else descent) (md - c.depth) c.depth c.idx c.val strict (to - acc2)).map
          fun cs => (lowCells ++ wholeCells ++ cs, mLow + mWhole + massOf c.val c.depth cs, uLow, deepest md c)
    else some (lowCells ++ wholeCells, mLow + mWhole, uLow, 0)
  | [] => some (lowCells ++ wholeCells, mLow + mWhole, uLow, 0)

/-- `selectCells` with, in addition, the value enclosed by the selection (`M`) and the values `uLow`,
    `uHigh` of one boundary piece at each threshold (the boundary cell itself when splitting is off,
    one of its deepest sub-cells when it is on, `0` when the threshold falls between two cells). -/
def selectWithMass (maxDepth : Nat) (cells : List VCell) (from_ to : Nat) (asc strict noSplit rev : Bool) :
    Option (List Cell × Nat × Nat × Nat) :=
  (lowStage (maxDepthOf maxDepth cells) (sortedOf asc cells) from_ strict noSplit rev).bind
    (highStage (maxDepthOf maxDepth cells) to strict noSplit rev)

theorem bind_congr_map {α β γ : Type} {x : Option α} {y : Option β} {f : α → Option γ} {g : β → Option γ}
    (π : α → β) (hxy : x.map π = y) (hfg : ∀ a, f a = g (π a)) : x.bind f = y.bind g := by
  subst hxy; cases x <;> simp [hfg]

theorem selectWithMass_cells (maxDepth : Nat) (cells : List VCell) (from_ to : Nat) (asc strict noSplit rev : Bool) :
    (selectWithMass maxDepth cells from_ to asc strict noSplit rev).map (·.1)
      = selectCells maxDepth cells from_ to asc strict noSplit rev := by
  unfold selectWithMass selectCells
  rw [Option.map_bind]
  -- stage by stage: the state handed over is that of the model function plus two values
  refine bind_congr_map (fun st => (st.1, st.2.1, st.2.2.1)) ?_ fun st => ?_
  · unfold lowStage sortedOf maxDepthOf
    generalize scanWhole from_ 0 _ = r1
    rcases r1 with ⟨acc, tk, _ | ⟨c, rest'⟩⟩
    · rfl
    · simp only [apply_ite (Option.map _), Option.map_some, Option.map_map]; rfl
  · obtain ⟨acc, lc, rest, m, u⟩ := st
    unfold highStage maxDepthOf
    simp only [Function.comp]
    generalize scanWhole to acc rest = r2
    rcases r2 with ⟨acc2, whole, _ | ⟨c, t⟩⟩
    · rfl
    · simp only [apply_ite (Option.map _), Option.map_some, Option.map_map]; rfl

variable {maxDepth md : Nat} {cells sorted : List VCell} {from_ to : Nat} {asc strict noSplit rev : Bool}
  {accL : Nat} {lowCells : List Cell} {restA : List VCell} {mLow uLow : Nat} {cs : List Cell} {M uLow' uHigh : Nat}

theorem selectWithMass_some {r : List Cell × Nat × Nat × Nat}
    (h : selectWithMass maxDepth cells from_ to asc strict noSplit rev = some r) :
    ∃ st, lowStage (maxDepthOf maxDepth cells) (sortedOf asc cells) from_ strict noSplit rev = some st ∧
      highStage (maxDepthOf maxDepth cells) to strict noSplit rev st = some r :=
  Option.bind_eq_some_iff.1 h

theorem selectCells_some (h : selectCells maxDepth cells from_ to asc strict noSplit rev = some cs) :
    ∃ M uLow uHigh, selectWithMass maxDepth cells from_ to asc strict noSplit rev = some (cs, M, uLow, uHigh) := by
  rw [← selectWithMass_cells] at h
  obtain ⟨⟨cs', M, uLow, uHigh⟩, hw, rfl⟩ := Option.map_eq_some_iff.1 h
  exact ⟨M, uLow, uHigh, hw⟩

/-- What a threshold takes of the map cell `c` it falls strictly inside of, `t` above its lower end (the same at
    both thresholds, up to the side that is kept): the selected pieces, their value, one boundary piece. -/
def boundary (lower : Bool) (md : Nat) (c : VCell) (strict noSplit rev : Bool) (t : Nat) :
    Option (List Cell × Nat × Nat) :=
  if noSplit then some (if strict then [] else [(c.depth, c.idx)], if strict then 0 else c.val, c.val)
  else
    (descentG lower (if rev then (3 - ·) else id) (md - c.depth) c.depth c.idx c.val strict t).map
      fun cs => (cs, massOf c.val c.depth cs, deepest md c)

/-- The branch of `lowStage` and of `highStage` that cuts a cell is `boundary`, repackaged by `g` into the result
    of the stage. -/
theorem map_boundary {α : Type} (g : List Cell × Nat × Nat → α) (lower : Bool) (md : Nat) (c : VCell)
    (strict noSplit rev : Bool) (t : Nat) :
    (boundary lower md c strict noSplit rev t).map g =
      if noSplit then some (g (if strict then [] else [(c.depth, c.idx)], if strict then 0 else c.val, c.val))
      else (descentG lower (if rev then (3 - ·) else id) (md - c.depth) c.depth c.idx c.val strict t).map
        fun cs => g (cs, massOf c.val c.depth cs, deepest md c) := by
  unfold boundary
  cases noSplit
  · exact Option.map_map ..
  · rfl

theorem boundary_bracket {lower : Bool} {c : VCell} {t m u : Nat}
    (h : boundary lower md c strict noSplit rev t = some (cs, m, u))
    (hdy : 4 ^ (md - c.depth) ∣ c.val) (h0 : 0 < t) (ht : t < c.val) :
    Bracket strict (kept lower c.val t) m u := by
  unfold boundary at h
  cases noSplit
  · obtain ⟨ds, hd, h⟩ := Option.map_eq_some_iff.1 h
    cases h
    exact descentG_bracket hd hdy ht
  · cases h
    exact Bracket.cell strict lower h0 ht

/-- Inversion of `lowStage` (and, below, of `highStage`): after the scan the threshold falls either strictly
    inside the next cell, which `boundary` cuts, or between two cells or beyond the map, and nothing is cut. -/
theorem lowStage_some
    (h : lowStage md sorted from_ strict noSplit rev = some (accL, lowCells, restA, mLow, uLow)) :
    ∃ acc tk rest, scanWhole from_ 0 sorted = (acc, tk, rest) ∧ sorted = tk ++ rest ∧ acc = sumVal tk ∧
      acc ≤ from_ ∧
      ((∃ c, rest = c :: restA ∧ acc < from_ ∧ from_ < acc + c.val ∧ accL = acc + c.val ∧
          boundary true md c strict noSplit rev (from_ - acc) = some (lowCells, mLow, uLow)) ∨
       ((rest = [] ∨ ¬ acc < from_) ∧ accL = acc ∧ restA = rest ∧ lowCells = [] ∧ mLow = 0 ∧ uLow = 0)) := by
  obtain ⟨tk, rest, hsc, s1, s3, s4⟩ := scanWhole_spec from_ sorted 0
  rw [Nat.zero_add] at hsc s3 s4
  unfold lowStage at h
  rw [(descents_eq rev).2, hsc] at h
  refine ⟨_, tk, rest, hsc, s1, rfl, s3 (Nat.zero_le _), ?_⟩
  cases rest with
  | nil => cases h; exact Or.inr ⟨Or.inl rfl, rfl, rfl, rfl, rfl, rfl⟩
  | cons c rest' =>
    simp only [] at h
    by_cases hlt : sumVal tk < from_
    · rw [if_pos hlt] at h
      obtain ⟨⟨b, m, u⟩, hb, h⟩ := Option.map_eq_some_iff.1 <|
        (map_boundary (fun p => (sumVal tk + c.val, p.1, rest', p.2.1, p.2.2)) true md c strict noSplit rev _).trans h
      cases h
      exact Or.inl ⟨c, rfl, hlt, s4 c _ rfl, rfl, hb⟩
    · rw [if_neg hlt] at h
      cases h
      exact Or.inr ⟨Or.inr hlt, rfl, rfl, rfl, rfl, rfl⟩

theorem highStage_some
    (h : highStage md to strict noSplit rev (accL, lowCells, restA, mLow, uLow) = some (cs, M, uLow', uHigh)) :
    ∃ whole rest2, scanWhole to accL restA = (accL + sumVal whole, whole, rest2) ∧ restA = whole ++ rest2 ∧
      (accL ≤ to → accL + sumVal whole ≤ to) ∧
      ∃ b m, cs = lowCells ++ whole.map (fun c => (c.depth, c.idx)) ++ b ∧ M = mLow + sumVal whole + m ∧ uLow' = uLow ∧
        ((∃ c t, rest2 = c :: t ∧ accL + sumVal whole < to ∧ to < accL + sumVal whole + c.val ∧
            boundary false md c strict noSplit rev (to - (accL + sumVal whole)) = some (b, m, uHigh)) ∨
         ((rest2 = [] ∨ ¬ accL + sumVal whole < to) ∧ b = [] ∧ m = 0 ∧ uHigh = 0)) := by
  obtain ⟨whole, rest2, hsc, s1, s3, s4⟩ := scanWhole_spec to restA accL
  unfold highStage at h
  rw [(descents_eq rev).1] at h
  simp only [hsc, Nat.add_sub_cancel_left] at h
  refine ⟨whole, rest2, hsc, s1, s3, ?_⟩
  cases rest2 with
  | nil => cases h; exact ⟨[], 0, (List.append_nil _).symm, rfl, rfl, Or.inr ⟨Or.inl rfl, rfl, rfl, rfl⟩⟩
  | cons c t =>
    simp only [] at h
    by_cases hlt : accL + sumVal whole < to
    · rw [if_pos hlt] at h
      obtain ⟨⟨b, m, u⟩, hb, h⟩ := Option.map_eq_some_iff.1 <|
        (map_boundary (fun p => (lowCells ++ whole.map (fun c => (c.depth, c.idx)) ++ p.1, mLow + sumVal whole + p.2.1,
          uLow, p.2.2)) false md c strict noSplit rev _).trans h
      cases h
      exact ⟨b, m, rfl, rfl, rfl, Or.inl ⟨c, t, rfl, hlt, s4 c t rfl, hb⟩⟩
    · rw [if_neg hlt] at h
      cases h
      exact ⟨[], 0, (List.append_nil _).symm, rfl, rfl, Or.inr ⟨Or.inr hlt, rfl, rfl, rfl⟩⟩

theorem insertStable_isInsert (after : VCell → VCell → Bool) :
    IsInsert (fun x y => after y x = true) (insertStable after) := ⟨fun _ => rfl, fun _ _ _ => rfl⟩

theorem sortStable_eq (after : VCell → VCell → Bool) (l : List VCell) :
    sortStable after l = l.reverse.foldr (insertStable after) [] := List.foldl_eq_foldr_reverse

theorem sortStable_perm (after : VCell → VCell → Bool) (l : List VCell) : (sortStable after l).Perm l := by
  rw [sortStable_eq]
  exact ((isSort_foldr _).perm (insertStable_isInsert after) _).trans (List.reverse_perm l)

theorem sortedOf_perm (asc : Bool) (cells : List VCell) : (sortedOf asc cells).Perm cells := by
  unfold sortedOf; split <;> exact sortStable_perm _ _

theorem sortedOf_spec (asc : Bool) (cells : List VCell) :
    (∀ y, y ∈ sortedOf asc cells ↔ y ∈ cells) ∧ sumVal (sortedOf asc cells) = sumVal cells :=
  ⟨fun _ => (sortedOf_perm asc cells).mem_iff, ((sortedOf_perm asc cells).map _).sum_nat⟩

theorem mem_of_sortedOf_suffix {tk rest : List VCell} (h : sortedOf asc cells = tk ++ rest) {c : VCell} (hc : c ∈ rest) :
    c ∈ cells :=
  ((sortedOf_spec asc cells).1 c).1 (h ▸ List.mem_append_right _ hc)

/-- The two thresholds are not strictly inside the SAME map cell (the configuration recorded as
    the open finding C20-both-thresholds-one-cell): the cell containing `from`, if any, ends at or
    before `to`. -/
def NotSameCell (cells : List VCell) (from_ to : Nat) (asc : Bool) : Prop :=
  ∀ c rest', (scanWhole from_ 0 (sortedOf asc cells)).2.2 = c :: rest' →
    (scanWhole from_ 0 (sortedOf asc cells)).1 < from_ → (scanWhole from_ 0 (sortedOf asc cells)).1 + c.val ≤ to

/-- Mass bracket of the cumulative selection: the value between `from` and the end `accL` of the lower stage
    is bracketed by the lower stage, the value from there to `to` by the upper one. -/
theorem selectWithMass_bracket
    (h : selectWithMass maxDepth cells from_ to asc strict noSplit rev = some (cs, M, uLow, uHigh))
    (hdy : ∀ c ∈ cells, 4 ^ (maxDepthOf maxDepth cells - c.depth) ∣ c.val)
    (hft : from_ ≤ to) (htot : to ≤ sumVal cells) (hsame : NotSameCell cells from_ to asc) :
    Bracket strict (to - from_) M (uLow + uHigh) := by
  have ss := (sortedOf_spec asc cells).2
  obtain ⟨⟨accL, lowCells, restA, mLow, uLow0⟩, hl, hh⟩ := selectWithMass_some h
  obtain ⟨acc, tk, rest, hsc, hsorted, rfl, hacc, hlow⟩ := lowStage_some hl
  unfold NotSameCell at hsame
  rw [hsc] at hsame
  rw [← ss, hsorted, sumVal_append] at htot
  have hdy' : ∀ c ∈ rest, 4 ^ (maxDepthOf maxDepth cells - c.depth) ∣ c.val :=
    fun c hc => hdy c (mem_of_sortedOf_suffix hsorted hc)
  obtain ⟨l1, l2, l3, l4, l5⟩ : from_ ≤ accL ∧ accL ≤ to ∧ accL + sumVal restA = sumVal tk + sumVal rest ∧
      (∀ c ∈ restA, c ∈ rest) ∧ Bracket strict (accL - from_) mLow uLow0 := by
    rcases hlow with ⟨c, rfl, hlt, hover, rfl, hb⟩ | ⟨hend, rfl, rfl, rfl, rfl, rfl⟩
    · have hb := boundary_bracket hb (hdy' c List.mem_cons_self) (Nat.sub_pos_of_lt hlt)
        (Nat.sub_lt_left_of_lt_add hacc hover)
      -- what is kept of the cell, `c.val - (from_ - acc)`, is what the stage ends above the threshold
      rw [← Nat.sub_sub_sub_cancel_right hacc, Nat.add_sub_cancel_left]
      exact ⟨Nat.le_of_lt hover, hsame c _ rfl hlt, by rw [sumVal_cons, Nat.add_assoc],
        fun x hx => List.mem_cons_of_mem _ hx, hb⟩
    · -- nothing is cut: the scan stopped exactly on the threshold
      have hz : sumVal tk = from_ := by
        rcases hend with rfl | hz
        · exact Nat.le_antisymm hacc (Nat.le_trans hft htot)
        · exact Nat.le_antisymm hacc (Nat.le_of_not_lt hz)
      rw [hz, Nat.sub_self]
      exact ⟨Nat.le_refl _, hft, rfl, fun _ => id, Bracket.exact ..⟩
  obtain ⟨whole, rest2, -, rfl, hacc2, b, m, -, rfl, rfl, hhigh⟩ := highStage_some hh
  have hacc2 := hacc2 l2
  -- the whole cells are enclosed exactly, the rest of the way to `to` by the cut
  have high : Bracket strict (sumVal whole + (to - (accL + sumVal whole))) (sumVal whole + m) uHigh := by
    refine Bracket.shift _ ?_
    rcases hhigh with ⟨c, t, rfl, hlt, hover, hb⟩ | ⟨hend, -, rfl, rfl⟩
    · exact boundary_bracket hb (hdy' c (l4 c (List.mem_append_right _ List.mem_cons_self))) (Nat.sub_pos_of_lt hlt)
        (Nat.sub_lt_left_of_lt_add hacc2 hover)
    · have hz : accL + sumVal whole = to := by
        rcases hend with rfl | hz
        · rw [List.append_nil] at l3; exact Nat.le_antisymm hacc2 (l3 ▸ htot)
        · exact Nat.le_antisymm hacc2 (Nat.le_of_not_lt hz)
      rw [hz, Nat.sub_self]; exact Bracket.exact ..
  rw [Nat.sub_add_eq, Nat.add_sub_cancel' (Nat.le_sub_of_add_le' hacc2)] at high
  rw [← Nat.sub_add_sub_cancel l2 l1, Nat.add_comm, Nat.add_assoc]
  exact l5.add high

end Moc.Mass
