/-
  C17, space part — morphology over an adjacency given as data.  Expansion, contraction and the borders are
  characterised by membership.  The flood fill keeps `s = cur ∪ rest` with `cur` reachable from the seeds, so
  it ends closed in `s`; `IsSplit` says what a correct partition into components is and gives cover and
  separation.
-/
import MocVerif.Model.Graph

namespace Moc.Graph

theorem mem_ins (x y : Nat) : ∀ (l : List Nat), y ∈ ins x l ↔ y = x ∨ y ∈ l := by
  intro l
  induction l with
  | nil => exact List.mem_cons
  | cons z t ih =>
    simp only [ins]
    split
    · exact List.mem_cons
    · split
      · next h => simp only [List.mem_cons, h, or_self_left]
      · simp only [List.mem_cons, ih, or_left_comm]

theorem mem_norm (y : Nat) : ∀ (l : List Nat), y ∈ norm l ↔ y ∈ l := by
  intro l
  induction l with
  | nil => simp [norm]
  | cons x t ih =>
    have : norm (x :: t) = ins x (norm t) := rfl
    rw [this, mem_ins, ih]; simp

theorem mem_filter_not_contains (x : Nat) (l m : List Nat) :
    x ∈ l.filter (fun y => !m.contains y) ↔ x ∈ l ∧ x ∉ m := by
  simp only [List.mem_filter, Bool.not_eq_eq_eq_not, Bool.not_true, List.contains_eq_mem, decide_eq_false_iff_not]

theorem filter_not_contains_congr {m m' : List Nat} (h : ∀ x, x ∈ m ↔ x ∈ m') (l : List Nat) :
    l.filter (fun x => !m.contains x) = l.filter (fun x => !m'.contains x) :=
  List.filter_congr fun x _ => by rw [List.contains_eq_mem, List.contains_eq_mem, decide_eq_decide.2 (h x)]

theorem length_filter_not_contains_lt {l m : List Nat} {x : Nat} (hl : x ∈ l) (hm : x ∈ m) :
    (l.filter fun y => !m.contains y).length < l.length :=
  List.length_filter_lt_length_iff_exists.2 ⟨x, hl, by simpa using hm⟩

theorem mem_or_mem_filter_not_contains {m l : List Nat} (h : ∀ x ∈ m, x ∈ l) (x : Nat) :
    x ∈ m ∨ x ∈ l.filter (fun y => !m.contains y) ↔ x ∈ l := by
  rw [mem_filter_not_contains]
  exact ⟨fun h' => h'.elim (h x) And.left, fun hl => (Decidable.em (x ∈ m)).imp_right fun hn => ⟨hl, hn⟩⟩

theorem mem_expanded (g : Adj) (s : List Nat) (x : Nat) :
    x ∈ expanded g s ↔ x ∈ s ∨ ∃ c ∈ s, x ∈ nbrs g c := by
  unfold expanded
  rw [mem_norm]
  simp only [List.mem_append, List.mem_flatMap]

theorem mem_extBorder (g : Adj) (s : List Nat) (x : Nat) :
    x ∈ extBorder g s ↔ x ∉ s ∧ ∃ c ∈ s, x ∈ nbrs g c := by
  unfold extBorder
  rw [mem_norm, mem_filter_not_contains, mem_expanded]
  exact ⟨fun ⟨h1, h2⟩ => ⟨h2, h1.resolve_left h2⟩, fun ⟨h1, h2⟩ => ⟨Or.inr h2, h1⟩⟩

theorem mem_intBorder (g : Adj) (univ s : List Nat) (x : Nat) :
    x ∈ intBorder g univ s ↔ x ∈ s ∧ x ∉ contracted g univ s := by
  unfold intBorder
  rw [mem_norm, mem_filter_not_contains]

def Closed (g : Adj) (s R : List Nat) : Prop := ∀ x ∈ R, ∀ n ∈ nbrs g x, n ∈ s → n ∈ R

inductive Reach (g : Adj) (src : List Nat) : Nat → Prop
  | base {x : Nat} : x ∈ src → Reach g src x
  | step {x n : Nat} : Reach g src x → n ∈ nbrs g x → Reach g src n

theorem mem_frontier (g : Adj) (rest cur : List Nat) (n : Nat) :
    n ∈ frontier g rest cur ↔ n ∈ rest ∧ ∃ c ∈ cur, n ∈ nbrs g c := by
  unfold frontier
  simp only [List.mem_filter, List.any_eq_true, List.contains_eq_mem, decide_eq_true_eq]

theorem closed_of_frontier_nil {g : Adj} {s rest cur : List Nat} (hf : frontier g rest cur = [])
    (hs : ∀ n, n ∈ s ↔ n ∈ cur ∨ n ∈ rest) : Closed g s cur := by
  intro x hx n hn hns
  refine ((hs n).1 hns).resolve_right fun h => ?_
  have : n ∈ frontier g rest cur := (mem_frontier g rest cur n).2 ⟨h, x, hx, hn⟩
  rw [hf] at this; cases this

theorem closure_spec (g : Adj) (s src : List Nat) (k : Nat) (rest cur : List Nat)
    (hk : rest.length ≤ k) (hs : ∀ n, n ∈ s ↔ n ∈ cur ∨ n ∈ rest) (hr : ∀ x ∈ cur, Reach g src x) :
    Closed g s (closure g k rest cur) ∧
    (∀ x ∈ cur, x ∈ closure g k rest cur) ∧
    (∀ x ∈ closure g k rest cur, x ∈ s) ∧
    (∀ x ∈ closure g k rest cur, Reach g src x) := by
  fun_induction closure g k rest cur with
  | case1 rest cur =>
    cases List.eq_nil_of_length_eq_zero (Nat.le_zero.1 hk)
    exact ⟨closed_of_frontier_nil rfl hs, fun x hx => hx, fun x hx => (hs x).2 (Or.inl hx), hr⟩
  | case2 k rest cur hf =>
    exact ⟨closed_of_frontier_nil hf hs, fun x hx => hx, fun x hx => (hs x).2 (Or.inl hx), hr⟩
  | case3 k rest cur f fs hf ih =>
    -- the frontier moves from `rest` to `cur`: `rest` gets shorter, the union stays, the new cells are reachable
    have hfm : ∀ n ∈ f :: fs, n ∈ rest ∧ ∃ c ∈ cur, n ∈ nbrs g c := fun n hn =>
      (mem_frontier g rest cur n).1 (hf ▸ hn)
    obtain ⟨c1, c2, c3, c4⟩ := ih
      (Nat.le_of_lt_succ (Nat.lt_of_lt_of_le
        (length_filter_not_contains_lt (hfm f List.mem_cons_self).1 List.mem_cons_self) hk))
      (fun n => by rw [hs n, List.mem_append, or_assoc, mem_or_mem_filter_not_contains fun x hx => (hfm x hx).1])
      (fun x hx => (List.mem_append.1 hx).elim (hr x) fun h =>
        let ⟨_, c, hc, hn⟩ := hfm x h
        Reach.step (hr c hc) hn)
    exact ⟨c1, fun x hx => c2 x (List.mem_append.2 (Or.inl hx)), c3, c4⟩

theorem componentOf_spec (g : Adj) (s : List Nat) (c : Nat) (hc : c ∈ s) :
    c ∈ componentOf g s c ∧ (∀ x ∈ componentOf g s c, x ∈ s) ∧ Closed g s (componentOf g s c) ∧
    ∀ x ∈ componentOf g s c, Reach g [c] x := by
  unfold componentOf
  have hlen : (s.filter fun x => x != c).length ≤ s.length := List.length_filter_le _ _
  have hs : ∀ n, n ∈ s ↔ n ∈ [c] ∨ n ∈ s.filter fun x => x != c := fun n => by
    rw [List.mem_singleton, List.mem_filter, bne_iff_ne]
    exact ⟨fun h => (Decidable.em (n = c)).imp_right fun e => ⟨h, e⟩, fun h => h.elim (· ▸ hc) And.left⟩
  obtain ⟨c1, c2, c3, c4⟩ := closure_spec g s [c] s.length _ [c] hlen hs (fun x hx => Reach.base hx)
  exact ⟨c2 c List.mem_cons_self, c3, c1, c4⟩

/-- A correct partition into components: the first is the component of some cell `c` of `s`, the rest is a correct
    partition of the remaining cells. -/
inductive IsSplit (g : Adj) : List Nat → List (List Nat) → Prop
  | nil : IsSplit g [] []
  | cons {s comp : List Nat} {rest : List (List Nat)} {c : Nat} :
      c ∈ s → c ∈ comp → (∀ x ∈ comp, x ∈ s) → Closed g s comp → (∀ x ∈ comp, Reach g [c] x) →
      IsSplit g (s.filter fun x => !comp.contains x) rest → IsSplit g s (comp :: rest)

theorem split_spec (g : Adj) (k : Nat) (s : List Nat) (hk : s.length ≤ k) : IsSplit g s (split g k s) := by
  fun_induction split g k s with
  | case1 s =>
    cases List.eq_nil_of_length_eq_zero (Nat.le_zero.1 hk)
    exact IsSplit.nil
  | case2 => exact IsSplit.nil
  | case3 k c t comp ih =>
    obtain ⟨h1, h2, h3, h4⟩ := componentOf_spec g (c :: t) c List.mem_cons_self
    -- the component is emitted in sorted form: same members
    have hn : ∀ x, x ∈ norm comp ↔ x ∈ comp := fun x => mem_norm x _
    refine IsSplit.cons (c := c) List.mem_cons_self ((hn c).2 h1) (fun x hx => h2 x ((hn x).1 hx))
      (fun x hx n hnb hns => (hn n).2 (h3 x ((hn x).1 hx) n hnb hns)) (fun x hx => h4 x ((hn x).1 hx)) ?_
    rw [filter_not_contains_congr hn]
    exact ih (Nat.le_of_lt_succ (Nat.lt_of_lt_of_le (length_filter_not_contains_lt List.mem_cons_self h1) hk))

theorem IsSplit.cover {g : Adj} : ∀ {s : List Nat} {comps : List (List Nat)}, IsSplit g s comps →
    ∀ x, x ∈ s ↔ ∃ comp ∈ comps, x ∈ comp := by
  intro s comps h
  induction h with
  | nil => intro x; simp
  | @cons s comp rest c _ _ hsub _ _ _ ih =>
    intro x
    rw [← mem_or_mem_filter_not_contains hsub x, ih x]
    simp only [List.mem_cons, exists_eq_or_imp]

/-- One direction only: no cell of a component has a neighbour in a LATER one (for a symmetric adjacency, no two
    components are adjacent). -/
theorem IsSplit.separated {g : Adj} : ∀ {s : List Nat} {comps : List (List Nat)}, IsSplit g s comps →
    comps.Pairwise fun a b => (∀ x ∈ a, x ∉ b) ∧ ∀ x ∈ a, ∀ n ∈ nbrs g x, n ∉ b := by
  intro s comps h
  induction h with
  | nil => exact List.Pairwise.nil
  | @cons s comp rest c _ _ hsub hcl _ hrest ih =>
    refine List.pairwise_cons.2 ⟨?_, ih⟩
    intro b hb
    have hbsub : ∀ y ∈ b, y ∈ s ∧ y ∉ comp := fun y hy =>
      (mem_filter_not_contains y s comp).1 ((hrest.cover y).2 ⟨b, hb, hy⟩)
    refine ⟨fun x hx hxb => (hbsub x hxb).2 hx, fun x hx n hn hnb => ?_⟩
    exact (hbsub n hnb).2 (hcl x hx n hn (hbsub n hnb).1)

end Moc.Graph
