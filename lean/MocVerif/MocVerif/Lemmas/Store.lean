/-
  The slab invariant of the store model (C13): what `insert`, `remove` and a counter write do to `lookup`
  and to the free list; a successful read phase only depends on the values of its operands.
-/
import MocVerif.Model.Store

namespace Moc.Store

/-- The free list of the slab: from `k` the `vacant` links visit exactly `ks` and end at `slots.length`. -/
inductive Chain (slots : List Slot) : Nat → List Nat → Prop
  | done : Chain slots slots.length []
  | step {k n : Nat} {ks : List Nat} :
      slots[k]? = some (.vacant n) → Chain slots n ks → Chain slots k (k :: ks)

/-- Slab invariant: the free list visits no slot twice; every occupied slot has a counter in `1..=255` (a `u8` that
    never reaches 0 while the slot is occupied). -/
def Inv (s : St) : Prop :=
  (∃ ks, Chain s.slots s.next ks ∧ ks.Nodup) ∧
  (∀ i c v, lookup s i = some (c, v) → 1 ≤ c ∧ c ≤ 255)

theorem chain_set {slots : List Slot} {k : Nat} {ks : List Nat} (h : Chain slots k ks)
    (i : Nat) (x : Slot) (hi : i ∉ ks) : Chain (slots.set i x) k ks := by
  induction h with
  | done =>
    have : Chain (slots.set i x) (slots.set i x).length [] := Chain.done
    rwa [List.length_set] at this
  | @step k n ks hk _ ih =>
    have hne : i ≠ k := fun e => hi (e ▸ List.mem_cons_self)
    refine Chain.step (n := n) ?_ (ih (fun hm => hi (List.mem_cons_of_mem _ hm)))
    rw [List.getElem?_set_ne hne]; exact hk

theorem lookup_of_occ {s : St} {i c : Nat} {v : Val} (h : s.slots[i]? = some (.occ c v)) :
    lookup s i = some (c, v) := by
  unfold lookup; rw [h]

theorem lookup_of_vacant {s : St} {i n : Nat} (h : s.slots[i]? = some (.vacant n)) :
    lookup s i = none := by
  unfold lookup; rw [h]

theorem lookup_of_none {s : St} {i : Nat} (h : s.slots[i]? = none) : lookup s i = none := by
  unfold lookup; rw [h]

theorem lookup_some_lt {s : St} {i c : Nat} {v : Val} (h : lookup s i = some (c, v)) : i < s.slots.length :=
  Nat.lt_of_not_le fun hn => by rw [lookup_of_none (List.getElem?_eq_none hn)] at h; cases h

theorem live_not_free {s : St} {k : Nat} {ks : List Nat} (hc : Chain s.slots k ks)
    {i c : Nat} {v : Val} (h : lookup s i = some (c, v)) : i ∉ ks := by
  induction hc with
  | done => exact List.not_mem_nil
  | step hk _ ih =>
    intro hm
    cases hm with
    | head => rw [lookup_of_vacant hk] at h; cases h
    | tail _ hm => exact ih hm

/-- An equation between functions with the `match` on `x` left in: for `x` a constructor application the right-hand
    side is `Reg.set (lookup s) i _` by `rfl`, so that after `rw [lookup_set _]` the constructors of `SpecStep` (C13)
    are accepted as they stand. -/
theorem lookup_set {s : St} {i : Nat} {x : Slot} {nx : Nat} (hi : i < s.slots.length) :
    lookup { slots := s.slots.set i x, next := nx }
      = fun j => if j = i then (match x with | .occ c v => some (c, v) | .vacant _ => none) else lookup s j := by
  funext j
  unfold lookup
  by_cases h : j = i
  · subst h; rw [if_pos rfl, List.getElem?_set_self hi]; cases x <;> rfl
  · rw [if_neg h, List.getElem?_set_ne (Ne.symm h)]

theorem counts_update {s s' : St} {i : Nat} {x : Option (Nat × Val)}
    (h : lookup s' = fun j => if j = i then x else lookup s j)
    (hx : ∀ c v, x = some (c, v) → 1 ≤ c ∧ c ≤ 255)
    (hcnt : ∀ j c v, lookup s j = some (c, v) → 1 ≤ c ∧ c ≤ 255) :
    ∀ j c v, lookup s' j = some (c, v) → 1 ≤ c ∧ c ≤ 255 := by
  intro j c v hj
  simp only [h] at hj
  split at hj
  · exact hx c v hj
  · exact hcnt j c v hj

theorem insert_spec (s : St) (v : Val) (hinv : Inv s) :
    lookup s (insert s v).2 = none ∧
    lookup (insert s v).1 = (fun j => if j = (insert s v).2 then some (1, v) else lookup s j) ∧
    Inv (insert s v).1 := by
  obtain ⟨⟨ks, hch, hnd⟩, hcnt⟩ := hinv
  have hone : ∀ c w, some (1, v) = some (c, w) → 1 ≤ c ∧ c ≤ 255 := by
    intro c w h; cases h; exact ⟨Nat.le_refl 1, by decide⟩
  unfold insert
  -- the two forms of the free list are the first two branches of `insert` (empty: push; head vacant: reuse it),
  -- so under `Inv` the third one (`unreachable!()` in the crate) is not taken
  generalize s.next = k at hch ⊢
  cases hch with
  | done =>
    simp only [↓reduceIte]
    have hl : lookup { slots := s.slots ++ [Slot.occ 1 v], next := s.slots.length + 1 }
        = fun j => if j = s.slots.length then some (1, v) else lookup s j := by
      funext j
      unfold lookup
      rcases Nat.lt_trichotomy j s.slots.length with hj | hj | hj
      · rw [List.getElem?_append_left hj, if_neg (Nat.ne_of_lt hj)]
      · subst hj; rw [List.getElem?_concat_length, if_pos rfl]
      · rw [List.getElem?_eq_none (by rw [List.length_append]; exact hj), List.getElem?_eq_none (Nat.le_of_lt hj),
          if_neg (Nat.ne_of_gt hj)]
    have hch := @Chain.done (s.slots ++ [Slot.occ 1 v])
    rw [List.length_append] at hch
    exact ⟨lookup_of_none (List.getElem?_eq_none (Nat.le_refl _)), hl, ⟨[], hch, List.nodup_nil⟩,
      counts_update hl hone hcnt⟩
  | @step _ n ks' hvac htail =>
    have hlt := (List.getElem?_eq_some_iff.1 hvac).1
    simp only [Nat.ne_of_lt hlt, ↓reduceIte, hvac]
    have hl := lookup_set (x := .occ 1 v) (nx := n) hlt
    exact ⟨lookup_of_vacant hvac, hl,
      ⟨ks', chain_set htail _ _ (List.nodup_cons.1 hnd).1, (List.nodup_cons.1 hnd).2⟩, counts_update hl hone hcnt⟩

theorem inv_set_count {s : St} {i c c' : Nat} {v : Val} (hinv : Inv s) (h : lookup s i = some (c, v))
    (hc : 1 ≤ c' ∧ c' ≤ 255) : Inv { s with slots := s.slots.set i (.occ c' v) } := by
  obtain ⟨⟨ks, hch, hnd⟩, hcnt⟩ := hinv
  refine ⟨⟨ks, chain_set hch _ _ (live_not_free hch h), hnd⟩,
    counts_update (lookup_set (lookup_some_lt h)) ?_ hcnt⟩
  intro d w e; cases e; exact hc

theorem inv_remove {s : St} {i c : Nat} {v : Val} (hinv : Inv s) (h : lookup s i = some (c, v)) :
    Inv (remove s i) := by
  obtain ⟨⟨ks, hch, hnd⟩, hcnt⟩ := hinv
  have hlt := lookup_some_lt h
  have hfree := live_not_free hch h
  exact ⟨⟨i :: ks, Chain.step (List.getElem?_set_self hlt) (chain_set hch _ _ hfree), List.nodup_cons.2 ⟨hfree, hnd⟩⟩,
    counts_update (lookup_set hlt) (fun _ _ e => nomatch e) hcnt⟩

theorem step_op {s : St} {c : Call} (h : isOp c = true) :
    step s c = match readPhase s c with
      | .ok v => ((insert s v).1, .idx (insert s v).2)
      | .error e => (s, .err e) := by
  cases c with
  | op1 _ _ | op2 _ _ _ | opn _ _ => rfl
  | _ => cases h

theorem valuesF_mono {f g : Nat → Option Val} {is : List Nat} {vs : List Val}
    (hfg : ∀ i ∈ is, ∀ v, f i = some v → g i = some v) (h : valuesF f is = some vs) : valuesF g is = some vs := by
  induction is generalizing vs with
  | nil => exact h
  | cons i is ih =>
    unfold valuesF at h ⊢
    split at h
    · next a ws hf hv =>
      rw [hfg i List.mem_cons_self a hf, ih (fun j hj => hfg j (List.mem_cons_of_mem _ hj)) hv]; exact h
    · cases h

theorem readPhaseF_mono {f g : Nat → Option Val} {c : Call} {v : Val}
    (hfg : ∀ i ∈ operands c, ∀ w, f i = some w → g i = some w) (h : readPhaseF f c = .ok v) :
    readPhaseF g c = .ok v := by
  cases c with
  | op1 fn i =>
    simp only [readPhaseF] at h ⊢
    split at h
    · next a hf => rw [hfg i List.mem_cons_self a hf]; exact h
    · cases h
  | op2 fn i j =>
    simp only [readPhaseF] at h ⊢
    split at h
    · next a b hi hj =>
      rw [hfg i List.mem_cons_self a hi, hfg j (List.mem_cons_of_mem _ List.mem_cons_self) b hj]; exact h
    · cases h
  | opn fn is =>
    simp only [readPhaseF] at h ⊢
    split at h
    · next vs hv => rw [valuesF_mono (is := is) hfg hv]; exact h
    · cases h
  | _ => cases h

end Moc.Store
