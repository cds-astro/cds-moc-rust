/-
  C05 — the cell-RANGE view: grouping consecutive cells of one depth into cell ranges changes neither what is
  covered nor what the reader returns.
-/
import MocVerif.Lemmas.CellView

namespace Moc

theorem mem_cellRangesFrom (q : Qty) (w : Nat) (x : Nat) (t : List Cell) (d i n : Nat) :
    mem x ((cellRangesFrom d i n t).map (rangeOfCellRange q w)) ↔
      (i <<< q.shiftFromMax w d ≤ x ∧ x < (i + n) <<< q.shiftFromMax w d) ∨ mem x (t.map (rangeOfCell q w)) := by
  fun_induction cellRangesFrom d i n t with
  | case1 d i n => exact Iff.rfl
  | case2 d i n c t h ih =>
    -- the cell `c = (d, i + n)` extends the current cell range by one cell
    obtain ⟨c1, c2⟩ := c
    obtain ⟨rfl, rfl⟩ : c1 = d ∧ i + n = c2 := h
    exact ih.trans ((or_congr_left (ico_append (shl_le_shl _ i (i + n) (Nat.le_add_right _ _))
      (shl_le_shl _ (i + n) (i + n + 1) (Nat.le_succ _))).symm).trans or_assoc)
  | case3 d i n c t h ih => exact or_congr_right ih

theorem mem_cellRangesOf (q : Qty) (w : Nat) (cs : List Cell) (x : Nat) :
    mem x ((cellRangesOf cs).map (rangeOfCellRange q w)) ↔ mem x (cs.map (rangeOfCell q w)) := by
  cases cs with
  | nil => exact Iff.rfl
  | cons c t => exact mem_cellRangesFrom q w x t c.1 c.2 1

/-- The pending group `(d, i, i + n)` is read as ONE range, which is what reading its cells one after the other
    gives, since each touches the one before.  The second conjunct is what the induction needs: when a group is
    closed (case 3) the reader goes on holding it as its current range, so the hypothesis has to speak of any `cur`. -/
theorem read_cellRangesFrom (q : Qty) (w : Nat) (t : List Cell) (d i n : Nat) :
    rangesOfCellRanges q w (cellRangesFrom d i n t) = rangesOfCellsFrom q w (rangeOfCellRange q w (d, i, i + n)) t ∧
    ∀ cur : Rng, rangesOfCellRangesFrom q w cur (cellRangesFrom d i n t) =
      if (rangeOfCellRange q w (d, i, i + n)).1 ≤ cur.2
      then rangesOfCellsFrom q w (cur.1, (rangeOfCellRange q w (d, i, i + n)).2) t
      else cur :: rangesOfCellsFrom q w (rangeOfCellRange q w (d, i, i + n)) t := by
  fun_induction cellRangesFrom d i n t with
  | case1 d i n => exact ⟨rfl, fun cur => rfl⟩
  | case2 d i n c t h ih =>
    -- `c = (d, i + n)` joins the group; on the cells' side it touches the current range
    obtain ⟨c1, c2⟩ := c
    obtain ⟨rfl, rfl⟩ : c1 = d ∧ i + n = c2 := h
    have hc := fun a => rangesOfCellsFrom_touch q w a (c1, i + n) t
    exact ⟨ih.1.trans (hc _).symm, fun cur => (ih.2 cur).trans
      (ite_congr rfl (fun _ => (hc cur.1).symm) fun _ => congrArg (cur :: ·) (hc _).symm)⟩
  | case3 d i n c t h ih =>
    -- the group is closed and read; `c` opens the next one
    exact ⟨ih.2 _, fun cur => by rw [rangesOfCellRangesFrom, ih.2, ih.2]; rfl⟩

theorem rangesOfCellRanges_cellRangesOf (q : Qty) (w : Nat) (cs : List Cell) :
    rangesOfCellRanges q w (cellRangesOf cs) = rangesOfCells q w cs := by
  cases cs with
  | nil => rfl
  | cons c t => exact (read_cellRangesFrom q w t c.1 c.2 1).1

end Moc
