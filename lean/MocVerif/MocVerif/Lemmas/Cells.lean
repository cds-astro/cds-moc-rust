/-
  The numbering schemes and index widths of C05 in arithmetic: a uniq number is decoded by the position of its
  leading bit (`log2_sub_div`), `trailing_zeros` counts the powers of two dividing a number (`le_tz_iff`),
  narrowing an index is division by `2^k`.
-/
import MocVerif.Model.Cells

namespace Moc

/-- `n` bits for the depth-0 cells, `c` bits per level: a leading bit in the `k`-th block of `c` bits means depth `k`. -/
theorem log2_sub_div {n c k a b u : Nat} (h1 : 2 ^ a ≤ u) (h2 : u < 2 ^ b) (ha : n + c * k ≤ a)
    (hb : b ≤ n + c * (k + 1)) : (u.log2 - n) / c = k := by
  -- `a ≤ ⌊log₂ u⌋ < b`
  have hne : u ≠ 0 := Nat.ne_of_gt (Nat.lt_of_lt_of_le (Nat.two_pow_pos a) h1)
  have h3 := Nat.le_trans ha ((Nat.le_log2 hne).2 h1)
  have h4 := Nat.lt_of_lt_of_le ((Nat.log2_lt hne).2 h2) hb
  rw [Nat.mul_comm] at h3 h4
  exact Nat.div_eq_of_lt_le (Nat.le_sub_of_add_le (Nat.add_comm _ _ ▸ h3))
    (Nat.sub_lt_left_of_lt_add (Nat.le_trans (Nat.le_add_right _ _) h3) h4)

theorem four_shl (d : Nat) : 4 <<< (2 * d) = 2 ^ (2 + 2 * d) := by
  rw [Nat.shiftLeft_eq, Nat.pow_add]

theorem uniqHpx_ge (d i : Nat) : 2 ^ (2 + 2 * d) ≤ uniqHpx d i := by
  rw [uniqHpx, four_shl]; exact Nat.le_add_left _ _

theorem uniqHpx_lt (d i : Nat) (hi : i < 12 * 4 ^ d) : uniqHpx d i < 2 ^ (2 + 2 * (d + 1)) := by
  rw [uniqHpx, Nat.shiftLeft_eq, Nat.pow_add, Nat.pow_mul, Nat.pow_mul, Nat.pow_succ]
  show i + 4 * 4 ^ d < 4 * (4 ^ d * 4)
  -- `i + 4p < 12p + 4p = 16p`
  refine Nat.lt_of_lt_of_eq (Nat.add_lt_add_right hi _) ?_
  rw [Nat.mul_comm (4 ^ d) 4, ← Nat.mul_assoc, ← Nat.add_mul]

theorem sentinel_eq (q : Qty) (d : Nat) : (1 <<< q.nd0Bits) <<< (q.dim * d) = 2 ^ (q.nd0Bits + q.dim * d) := by
  rw [Nat.shiftLeft_eq, Nat.shiftLeft_eq, Nat.one_mul, ← Nat.pow_add]

/-- `to_uniq_gen` / `from_uniq_gen` (sentinel bit above the index); `hq`: the depth-0 cells fit in `N_D0_BITS` bits. -/
theorem fromUniqGen_toUniqGen (q : Qty) (hdim : 0 < q.dim) (hq : q.nd0 ≤ 2 ^ q.nd0Bits) (d i : Nat)
    (hi : i < q.nCells d) : fromUniqGen q (toUniqGen q d i) = (d, i) := by
  have hi' : i < 2 ^ (q.nd0Bits + q.dim * d) := by
    rw [Qty.nCells, Nat.shiftLeft_eq] at hi
    rw [Nat.pow_add]
    exact Nat.lt_of_lt_of_le hi (Nat.mul_le_mul_right _ hq)
  -- the sentinel bit is above `i`: "or" is "plus"
  have hor : toUniqGen q d i = 2 ^ (q.nd0Bits + q.dim * d) + i := by
    have := Nat.two_pow_add_eq_or_of_lt hi' 1
    rw [Nat.mul_one] at this
    rw [toUniqGen, sentinel_eq, this]
  have hd : ((2 ^ (q.nd0Bits + q.dim * d) + i).log2 - q.nd0Bits) / q.dim = d :=
    log2_sub_div (Nat.le_add_right _ i) (b := q.nd0Bits + q.dim * d + 1)
      (by rw [Nat.pow_succ, Nat.mul_two]; exact Nat.add_lt_add_left hi' _)
      (Nat.le_refl _) (by rw [Nat.mul_succ, ← Nat.add_assoc]; exact Nat.add_le_add_left hdim _)
  rw [hor, fromUniqGen, hd, sentinel_eq, Nat.add_sub_cancel_left]

theorem tzAux_odd (f : Nat) {n : Nat} (h : n % 2 = 1) : tzAux (f + 1) n = 0 := if_pos h
theorem tzAux_even (f : Nat) {n : Nat} (h : ¬ n % 2 = 1) : tzAux (f + 1) n = tzAux f (n / 2) + 1 :=
  (if_neg h).trans (Nat.add_comm _ _)

theorem le_tzAux_iff : ∀ fuel m n, n ≠ 0 → m ≤ fuel → (m ≤ tzAux fuel n ↔ 2 ^ m ∣ n) := by
  intro fuel
  induction fuel with
  | zero =>
    intro m n _ hm
    cases Nat.le_zero.1 hm
    exact ⟨fun _ => Nat.one_dvd n, fun _ => Nat.zero_le _⟩
  | succ f ih =>
    intro m n hn hm
    cases m with
    | zero => exact ⟨fun _ => Nat.one_dvd n, fun _ => Nat.zero_le _⟩
    | succ m =>
      by_cases h : n % 2 = 1
      · rw [tzAux_odd f h]
        exact ⟨fun h0 => absurd h0 (Nat.not_succ_le_zero m), fun hd => absurd
          (h.symm.trans (Nat.mod_eq_zero_of_dvd (Nat.dvd_trans (Nat.dvd_mul_left 2 (2 ^ m)) hd))) (by decide)⟩
      · -- `2^(m+1) ∣ 2 · (n / 2) ↔ 2^m ∣ n / 2`
        have e : 2 * (n / 2) = n :=
          Nat.mul_div_cancel' (Nat.dvd_of_mod_eq_zero ((Nat.mod_two_eq_zero_or_one n).resolve_right h))
        rw [tzAux_even f h, Nat.succ_le_succ_iff, ih m (n / 2) (fun h0 => hn (by rw [← e, h0])) (Nat.le_of_succ_le_succ hm),
          ← Nat.mul_dvd_mul_iff_left Nat.two_pos, ← Nat.pow_succ', e]

theorem le_tz_iff (w m n : Nat) (hm : m ≤ w) : m ≤ tz w n ↔ 2 ^ m ∣ n := by
  by_cases h : n = 0
  · rw [tz, if_pos h, h]; exact ⟨fun _ => Nat.dvd_zero _, fun _ => hm⟩
  · rw [tz, if_neg h]; exact le_tzAux_iff w m n h hm

theorem tz_odd_shl (w s m : Nat) (h : s < w) : tz w ((2 * m + 1) <<< s) = s := by
  rw [Nat.shiftLeft_eq]
  have a := (le_tz_iff w s ((2 * m + 1) * 2 ^ s) (Nat.le_of_lt h)).2 (Nat.dvd_mul_left _ _)
  have b : ¬ s + 1 ≤ tz w ((2 * m + 1) * 2 ^ s) := by
    -- `2^(s+1) ∣ (2m+1)·2^s` would make `2` divide `2m+1`
    rw [le_tz_iff w _ _ h, Nat.pow_succ', Nat.mul_dvd_mul_iff_right (Nat.two_pow_pos s)]
    exact fun hd => absurd ((Nat.mul_add_mod 2 m 1).symm.trans (Nat.mod_eq_zero_of_dvd hd)) (by decide)
  exact Nat.le_antisymm (Nat.le_of_not_lt b) a

theorem or_one_shl (i : Nat) : (i <<< 1) ||| 1 = 2 * i + 1 := by
  rw [Nat.shiftLeft_eq, Nat.mul_comm]
  exact (Nat.two_pow_add_eq_or_of_lt (by decide : 1 < 2 ^ 1) i).symm

theorem narrow_widen (k x : Nat) : narrow k (widen k x) = x := Nat.shiftLeft_shiftRight x k

theorem narrow_eq (k x : Nat) : narrow k x = x / 2 ^ k := Nat.shiftRight_eq_div_pow x k

theorem lt_narrowUp (k x y : Nat) : y < narrowUp k x ↔ y * 2 ^ k < x := by
  have hc := Nat.two_pow_pos k
  have hle := Nat.div_mul_le_self x (2 ^ k)
  simp only [narrowUp, narrow_eq, widen, Nat.shiftLeft_eq]
  split
  · rename_i h
    rw [Nat.lt_succ_iff, Nat.le_div_iff_mul_le hc]
    exact ⟨fun h1 => Nat.lt_of_le_of_lt (Nat.mul_le_mul_right _ ((Nat.le_div_iff_mul_le hc).2 h1)) h, Nat.le_of_lt⟩
  · rename_i h
    rw [← Nat.mul_lt_mul_right hc, Nat.le_antisymm hle (Nat.le_of_not_lt h)]

theorem narrow_interval (k a b : Nat) (hab : a < b) (P : Nat → Prop) :
    (∃ y, narrow k a ≤ y ∧ y < narrowUp k b ∧ P y) ↔ ∃ t, a ≤ t ∧ t < b ∧ P (narrow k t) := by
  have hc := Nat.two_pow_pos k
  simp only [lt_narrowUp, narrow_eq]
  constructor
  · rintro ⟨y, h1, h2, h3⟩
    -- `y` is the index of `max a (start of y)`
    have e : max a (y * 2 ^ k) / 2 ^ k = y := Nat.le_antisymm
      (Nat.le_of_lt_succ ((Nat.div_lt_iff_lt_mul hc).2 (Nat.max_lt.2
        ⟨(Nat.div_lt_iff_lt_mul hc).1 (Nat.lt_succ_of_le h1), Nat.mul_lt_mul_of_pos_right (Nat.lt_succ_self y) hc⟩)))
      ((Nat.le_div_iff_mul_le hc).2 (Nat.le_max_right _ _))
    exact ⟨max a (y * 2 ^ k), Nat.le_max_left _ _, Nat.max_lt.2 ⟨hab, h2⟩, e.symm ▸ h3⟩
  · rintro ⟨t, h1, h2, h3⟩
    exact ⟨_, Nat.div_le_div_right h1, Nat.lt_of_le_of_lt (Nat.div_mul_le_self t _) h2, h3⟩

end Moc
