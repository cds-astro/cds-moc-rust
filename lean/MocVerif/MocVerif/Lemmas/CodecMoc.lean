/-
  From valid MOCs to the element lists the ASCII writer is fed with (C07 end to end):
  the cell ranges of a valid MOC are in-domain, ordered, pairwise disjoint and cover exactly the MOC.
-/
import MocVerif.Lemmas.CellView
import MocVerif.Lemmas.Valid
import MocVerif.Lemmas.Codec

namespace Moc.Codec
open Moc

/-- Cells in increasing, non-overlapping order inside `[lo, hi]`, each of depth ≤ `d`. -/
def OrdCells (q : Qty) (w d : Nat) : Nat → Nat → List Cell → Prop
  | lo, hi, [] => lo ≤ hi
  | lo, hi, c :: t =>
    c.1 ≤ d ∧ lo ≤ (rangeOfCell q w c).1 ∧ (rangeOfCell q w c).1 < (rangeOfCell q w c).2 ∧
    OrdCells q w d (rangeOfCell q w c).2 hi t

theorem OrdCells.le {q : Qty} {w d : Nat} : ∀ {cs : List Cell} {lo hi : Nat}, OrdCells q w d lo hi cs → lo ≤ hi := by
  intro cs
  induction cs with
  | nil => intro lo hi h; exact h
  | cons c t ih => intro lo hi ⟨_, h2, h3, h4⟩; exact Nat.le_trans h2 (Nat.le_trans (Nat.le_of_lt h3) (ih h4))

theorem OrdCells.widen {q : Qty} {w d : Nat} {cs : List Cell} {lo hi lo' : Nat} (h : OrdCells q w d lo hi cs)
    (hlo : lo' ≤ lo) : OrdCells q w d lo' hi cs := by
  cases cs with
  | nil => exact Nat.le_trans hlo h
  | cons c t => exact ⟨h.1, Nat.le_trans hlo h.2.1, h.2.2⟩

theorem OrdCells.append {q : Qty} {w d : Nat} {cs2 : List Cell} {mid hi : Nat} (h2 : OrdCells q w d mid hi cs2)
    {cs : List Cell} : ∀ {lo : Nat}, OrdCells q w d lo mid cs → OrdCells q w d lo hi (cs ++ cs2) := by
  induction cs with
  | nil => exact fun h1 => h2.widen h1
  | cons c t ih => exact fun ⟨a, b, c', e⟩ => ⟨a, b, c', ih e⟩

theorem ordCells_of_tiles (q : Qty) (w d : Nat) : ∀ (cs : List Cell) (s e : Nat), Tiles q w d s e cs →
    OrdCells q w d s e cs := by
  intro cs
  induction cs with
  | nil => intro s e h; exact Nat.le_of_eq h
  | cons c t ih =>
    intro s e h
    obtain ⟨s', h1, h2, _, h4, h5⟩ := h
    rw [OrdCells, h1]
    exact ⟨h4, Nat.le_refl _, h2, ih s' e h5⟩

theorem ordCells_cellsOf (q : Qty) (hq : q.dim = 1 ∨ q.dim = 2) (w d : Nat) (hd : d ≤ q.maxDepth w) (ub : Nat) :
    ∀ (l : List Rng) (lo : Nat), CanonFrom lo l → Aligned (2 ^ q.shiftFromMax w d) l → BoundedBy ub l → lo ≤ ub →
      OrdCells q w d lo ub (cellsOf q w d l) := by
  intro l
  induction l with
  | nil => intro lo _ _ _ h; exact h
  | cons r t ih =>
    intro lo ⟨h1, h2, h3⟩ ha hb _
    have har := ha r List.mem_cons_self
    have o1 := ordCells_of_tiles q w d _ _ _
      (cellsOfRange_tiles q hq w d hd (r.2 - r.1) r.1 r.2 (Nat.le_refl _) (Nat.le_of_lt h2) har.1 har.2)
    have o2 := ih r.2 (h3.mono (Nat.le_succ _)) (fun x hx => ha x (List.mem_cons_of_mem _ hx))
      (fun x hx => hb x (List.mem_cons_of_mem _ hx)) (hb r List.mem_cons_self)
    rw [cellsOf, List.flatMap_cons]
    exact (o2.append o1).widen h1

theorem ordCells_of_valid (q : Qty) (hq : q.dim = 1 ∨ q.dim = 2) (w d : Nat) (hd : d ≤ q.maxDepth w)
    (l : List Rng) (hv : Valid q w d l) : OrdCells q w d 0 (q.nCellsMax w) (cellsOf q w d l) :=
  ordCells_cellsOf q hq w d hd _ l 0 hv.1 hv.aligned hv.2.1 (Nat.zero_le _)

def OrdCR (q : Qty) (w d : Nat) : Nat → Nat → List CellRange → Prop
  | lo, hi, [] => lo ≤ hi
  | lo, hi, c :: t =>
    c.1 ≤ d ∧ c.2.1 < c.2.2 ∧ lo ≤ (rangeOfCellRange q w c).1 ∧ OrdCR q w d (rangeOfCellRange q w c).2 hi t

theorem ordCR_cellRangesFrom (q : Qty) (w d : Nat) : ∀ (t : List Cell) (d0 i n lo hi : Nat),
    d0 ≤ d → 0 < n → lo ≤ i <<< q.shiftFromMax w d0 →
    OrdCells q w d ((i + n) <<< q.shiftFromMax w d0) hi t →
    OrdCR q w d lo hi (cellRangesFrom d0 i n t) := by
  intro t
  induction t with
  | nil => intro d0 i n lo hi hd0 hn hlo h; exact ⟨hd0, Nat.lt_add_of_pos_right hn, hlo, h⟩
  | cons c t ih =>
    intro d0 i n lo hi hd0 hn hlo ⟨a, b, _, e⟩
    rw [cellRangesFrom]
    split
    next hc =>
      -- the cell continues the run, which now ends where the cell ends
      have : (rangeOfCell q w c).2 = (i + (n + 1)) <<< q.shiftFromMax w d0 := by
        rw [rangeOfCell, hc.1, ← hc.2]; rfl
      exact ih d0 i (n + 1) lo hi hd0 (Nat.succ_pos _) hlo (this ▸ e)
    · exact ⟨hd0, Nat.lt_add_of_pos_right hn, hlo, ih c.1 c.2 1 _ hi a Nat.one_pos b e⟩

theorem ordCR_cellRangesOf (q : Qty) (w d : Nat) (cs : List Cell) (lo hi : Nat)
    (h : OrdCells q w d lo hi cs) : OrdCR q w d lo hi (cellRangesOf cs) := by
  cases cs with
  | nil => exact h
  | cons c t => exact ordCR_cellRangesFrom q w d t c.1 c.2 1 lo hi h.1 Nat.one_pos h.2.1 h.2.2.2

theorem OrdCR.spec {q : Qty} {w d : Nat} : ∀ {cs : List CellRange} {lo hi : Nat}, OrdCR q w d lo hi cs →
    lo ≤ hi ∧ ∀ c ∈ cs, c.1 ≤ d ∧ c.2.1 < c.2.2 ∧ lo ≤ (rangeOfCellRange q w c).1 ∧ (rangeOfCellRange q w c).2 ≤ hi := by
  intro cs
  induction cs with
  | nil => intro lo hi h; exact ⟨h, fun _ hc => nomatch hc⟩
  | cons c0 t ih =>
    intro lo hi ⟨h1, h2, h3, h4⟩
    obtain ⟨hle, ht⟩ := ih h4
    have h0 : lo ≤ (rangeOfCellRange q w c0).2 := Nat.le_trans h3 (shl_le_shl _ _ _ (Nat.le_of_lt h2))
    exact ⟨Nat.le_trans h0 hle, List.forall_mem_cons.2 ⟨⟨h1, h2, h3, hle⟩, fun c hc =>
      have m := ht c hc
      ⟨m.1, m.2.1, Nat.le_trans h0 m.2.2.1, m.2.2.2⟩⟩⟩

theorem OrdCR.pairwise {q : Qty} {w d : Nat} : ∀ {cs : List CellRange} {lo hi : Nat}, OrdCR q w d lo hi cs →
    (cs.map (rangeOfCellRange q w)).Pairwise Disjoint' := by
  intro cs
  induction cs with
  | nil => intro _ _ _; exact List.Pairwise.nil
  | cons c0 t ih =>
    intro lo hi ⟨_, _, _, h4⟩
    rw [List.map_cons, List.pairwise_cons]
    refine ⟨fun r hr => ?_, ih h4⟩
    obtain ⟨c, hc, rfl⟩ := List.mem_map.1 hr
    exact Or.inl (h4.spec.2 c hc).2.2.1

theorem le_nCells_of_shl_le (q : Qty) (w dd j : Nat) (hdd : dd ≤ q.maxDepth w)
    (h : j <<< q.shiftFromMax w dd ≤ q.nCellsMax w) : j ≤ q.nCells dd := by
  have e : q.nCellsMax w = q.nCells dd <<< q.shiftFromMax w dd := by
    rw [Qty.nCellsMax, Qty.nCells, Qty.shiftFromMax, ← Nat.shiftLeft_add, ← Nat.mul_add, Nat.add_sub_cancel' hdd]
  rwa [e, shl_le_iff, Nat.shiftLeft_eq, Nat.mul_div_cancel _ (Nat.two_pow_pos _)] at h

/-- The JSON writer emits cells only: here as cell ranges of length one. -/
def unitCR (c : Cell) : CellRange := (c.1, c.2, c.2 + 1)

theorem ordCR_of_ordCells (q : Qty) (w d : Nat) : ∀ (cs : List Cell) (lo hi : Nat), OrdCells q w d lo hi cs →
    OrdCR q w d lo hi (cs.map unitCR) := by
  intro cs
  induction cs with
  | nil => intro lo hi h; exact h
  | cons c t ih => intro lo hi ⟨a, b, _, e⟩; exact ⟨a, Nat.lt_succ_self _, b, ih _ hi e⟩

theorem ordCR_items_ok (q : Qty) (w d : Nat) (hd : d ≤ q.maxDepth w) (hd255 : d ≤ 255) (crs : List CellRange) (lo : Nat)
    (ocr : OrdCR q w d lo (q.nCellsMax w) crs) :
    ∀ it ∈ crs.map (fun c => (⟨c.1, c.2.1, c.2.2⟩ : Item)), ItemOk q w it ∧ it.d ≤ d := by
  intro it hit
  obtain ⟨c, hc, rfl⟩ := List.mem_map.1 hit
  obtain ⟨m1, m2, _, m3⟩ := ocr.spec.2 c hc
  exact ⟨⟨Nat.le_trans m1 hd, Nat.le_trans m1 hd255, m2,
    le_nCells_of_shl_le q w c.1 c.2.2 (Nat.le_trans m1 hd) m3⟩, m1⟩

/-- The token round trip for any ordered cover of a canonical MOC by cell ranges: the ASCII writer's fused ranges
    and the JSON writer's single cells are the two covers used. -/
theorem roundtrip_of_ordCR (q : Qty) (w d : Nat) (hd : d ≤ q.maxDepth w) (hd255 : d ≤ 255) (l : List Rng)
    (hc : Canon l) (crs : List CellRange) (ocr : OrdCR q w d 0 (q.nCellsMax w) crs)
    (hcov : ∀ x, mem x (crs.map (rangeOfCellRange q w)) ↔ mem x l) :
    decodeToks q w (encodeToks d (crs.map fun c => ⟨c.1, c.2.1, c.2.2⟩)) = .ok (d, l) := by
  have hmap : (crs.map fun c => (⟨c.1, c.2.1, c.2.2⟩ : Item)).map (rangeOfItem q w) = crs.map (rangeOfCellRange q w) := by
    rw [List.map_map]
    exact List.map_congr_left fun c _ => rfl
  rw [decodeToks_encodeToks q w d _ ⟨hd, hd255⟩ (ordCR_items_ok q w d hd hd255 crs _ ocr) (hmap ▸ ocr.pairwise),
    hmap]
  have n := normalize_spec (crs.map (rangeOfCellRange q w))
  exact congrArg (fun r => Except.ok (d, r)) (Canon.ext n.1 hc fun x => by rw [n.2, hcov])

end Moc.Codec
