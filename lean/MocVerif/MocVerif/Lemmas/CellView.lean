/-
  The cell view of a whole MOC (C05): one step takes the greatest aligned cell that fits, `cellsOf` tiles
  every range exactly with locally maximal cells, and reading the cells back (`rangesOfCells`) returns the
  original canonical ranges.
-/
import MocVerif.Lemmas.Cells
import MocVerif.Lemmas.Canon
import MocVerif.Lemmas.Shift

namespace Moc

theorem dim_maxDepth_le (q : Qty) (w : Nat) : q.dim * q.maxDepth w ≤ w :=
  Nat.le_trans (Nat.mul_div_le _ _) (Nat.sub_le _ _)

/-- `n >> (dim - 1)` is `n / dim` for the dimensions in use, 1 and 2. -/
theorem le_ddFromBits_iff (q : Qty) (hq : q.dim = 1 ∨ q.dim = 2) (k n : Nat) :
    k ≤ ddFromBits q n ↔ q.dim * k ≤ n := by
  unfold ddFromBits
  rcases hq with h | h <;> rw [h]
  · exact (Nat.one_mul k).symm ▸ Iff.rfl
  · rw [Nat.shiftRight_eq_div_pow, Nat.le_div_iff_mul_le (Nat.two_pow_pos _), Nat.mul_comm]

theorem and_mask_eq_zero_of_dvd (s sh k : Nat) (h : 2 ^ (sh + k) ∣ s) : s &&& ((2 ^ k - 1) <<< sh) = 0 := by
  obtain ⟨c, rfl⟩ := h
  rw [Nat.pow_add, Nat.mul_assoc, Nat.mul_comm, ← Nat.shiftLeft_eq, ← Nat.shiftLeft_and_distrib,
    Nat.and_two_pow_sub_one_eq_mod, Nat.mul_mod_right, Nat.zero_shiftLeft]

/-- The number of levels above the deepest one of the cell `nextCell` takes. -/
def level (q : Qty) (w s e : Nat) : Nat :=
  min (min (ddFromBits q (Nat.log2 (e - s))) (ddFromBits q (tz w s))) (q.maxDepth w)

theorem level_le (q : Qty) (w s e : Nat) : level q w s e ≤ q.maxDepth w := Nat.min_le_right _ _

theorem nextCell_eq (q : Qty) (w s e : Nat) :
    nextCell q w s e = ((q.maxDepth w - level q w s e, s >>> (q.dim * level q w s e)), s + 1 <<< (q.dim * level q w s e)) := rfl

/-- `level` is the GREATEST `k ≤ MAX_DEPTH` whose block at `s` is aligned and fits in `[s, e)`: correctness and
    maximality of the greedy step in one. -/
theorem le_level_iff (q : Qty) (hq : q.dim = 1 ∨ q.dim = 2) (w s e : Nat) (hse : s < e) (k : Nat)
    (hk : k ≤ q.maxDepth w) :
    k ≤ level q w s e ↔ 2 ^ (q.dim * k) ∣ s ∧ s + 2 ^ (q.dim * k) ≤ e := by
  have hkw : q.dim * k ≤ w := Nat.le_trans (Nat.mul_le_mul_left _ hk) (dim_maxDepth_le q w)
  unfold level
  rw [Nat.le_min, Nat.le_min, le_ddFromBits_iff q hq, le_ddFromBits_iff q hq,
    Nat.le_log2 (Nat.sub_ne_zero_of_lt hse), le_tz_iff w _ s hkw, Nat.le_sub_iff_add_le' (Nat.le_of_lt hse)]
  exact ⟨fun h => ⟨h.1.2, h.1.1⟩, fun h => ⟨⟨h.2, h.1⟩, hk⟩⟩

/-- The tile of a cell: levels above the deepest one, start index. -/
def tileOf (q : Qty) (w : Nat) (c : Cell) : Nat × Nat := (q.maxDepth w - c.1, c.2 <<< q.shiftFromMax w c.1)

theorem rangeOfCell_eq (q : Qty) (w : Nat) (c : Cell) :
    rangeOfCell q w c = ((tileOf q w c).2, (tileOf q w c).2 + 2 ^ (q.dim * (tileOf q w c).1)) :=
  Prod.ext rfl (succ_shl _ _)

theorem tileOf_block (q : Qty) (w k s : Nat) (hk : k ≤ q.maxDepth w) (hs : 2 ^ (q.dim * k) ∣ s) :
    tileOf q w (q.maxDepth w - k, s >>> (q.dim * k)) = (k, s) := by
  unfold tileOf Qty.shiftFromMax
  rw [Nat.sub_sub_self hk, shr_shl_of_dvd _ _ hs]

/-- The shortcut of `next_cell_with_knowledge` on a range aligned on depth `d`: when the range is one depth-`d` cell
    long, or `s` is not aligned one level up, the greatest level that is aligned and fits is that of depth `d`. -/
theorem nextCellK_eq_nextCell (q : Qty) (hq : q.dim = 1 ∨ q.dim = 2) (w d s e : Nat) (hd : d ≤ q.maxDepth w)
    (hs : 2 ^ q.shiftFromMax w d ∣ s) (he : 2 ^ q.shiftFromMax w d ∣ e) (hse : s < e) :
    nextCellK q w d s e = nextCell q w s e := by
  unfold nextCellK
  dsimp only
  split
  · rename_i hc
    have hlev : level q w s e = q.maxDepth w - d := by
      refine Nat.le_antisymm (Nat.le_of_not_lt fun hlt => ?_)
        ((le_level_iff q hq w s e hse _ (Nat.sub_le _ _)).2 ⟨hs, add_le_of_dvd hs he hse⟩)
      -- one level up the block at `s` would be aligned and fit
      obtain ⟨h1, h2⟩ := (le_level_iff q hq w s e hse _ (Nat.le_trans hlt (level_le q w s e))).1 hlt
      simp only [Bool.or_eq_true, decide_eq_true_eq, ne_eq, Nat.one_shiftLeft] at hc
      rcases hc with hc | hc
      · -- a range of one depth-`d` cell has no room for `2^dim` of them
        have h3 := Nat.le_sub_of_add_le' h2
        rw [hc] at h3
        have hdim : 0 < q.dim := hq.elim (fun h => h ▸ Nat.one_pos) fun h => h ▸ Nat.two_pos
        exact Nat.not_succ_le_self _
          (Nat.le_of_mul_le_mul_left ((Nat.pow_le_pow_iff_right (Nat.lt_succ_self 1)).1 h3) hdim)
      · exact hc (and_mask_eq_zero_of_dvd s (q.shiftFromMax w d) q.dim h1)
    rw [nextCell_eq, hlev, Nat.sub_sub_self hd]
    rfl
  · rfl

def Tiles (q : Qty) (w d : Nat) : Nat → Nat → List Cell → Prop
  | s, e, [] => s = e
  | s, e, c :: t => ∃ s', rangeOfCell q w c = (s, s') ∧ s < s' ∧ s' ≤ e ∧ c.1 ≤ d ∧ Tiles q w d s' e t

/-! For maximality, tiles are abstracted as `(j, t)`: the block `[t, t + 2^(g·j))`, `j ≤ J` levels above the deepest
  one; each is locally maximal (its parent block is not aligned on `t` or does not fit before `e`). -/

def GTiles (g J : Nat) : Nat → Nat → List (Nat × Nat) → Prop
  | s, e, [] => s = e
  | s, e, b :: rest =>
    b.2 = s ∧ 2 ^ (g * b.1) ∣ s ∧ s + 2 ^ (g * b.1) ≤ e ∧ b.1 ≤ J ∧
    (b.1 < J → ¬ (2 ^ (g * (b.1 + 1)) ∣ s ∧ s + 2 ^ (g * (b.1 + 1)) ≤ e)) ∧
    GTiles g J (s + 2 ^ (g * b.1)) e rest

theorem cellsOfRange_walk (q : Qty) (hq : q.dim = 1 ∨ q.dim = 2) (w d : Nat) (hd : d ≤ q.maxDepth w) :
    ∀ (fuel s e : Nat), e - s ≤ fuel → s ≤ e → 2 ^ q.shiftFromMax w d ∣ s → 2 ^ q.shiftFromMax w d ∣ e →
      Tiles q w d s e (cellsOfRange q w d fuel s e) ∧
      GTiles q.dim (q.maxDepth w) s e ((cellsOfRange q w d fuel s e).map (tileOf q w)) := by
  intro fuel
  induction fuel with
  | zero =>
    intro s e hf hse _ _
    have h : s = e := Nat.le_antisymm hse (Nat.le_of_sub_eq_zero (Nat.le_zero.1 hf))
    exact ⟨h, h⟩
  | succ f ih =>
    intro s e hf hse hs he
    rw [cellsOfRange]
    split
    · rename_i hes
      exact ⟨Nat.le_antisymm hse hes, Nat.le_antisymm hse hes⟩
    · rename_i hlt
      have hse := Nat.lt_of_not_le hlt
      have hlev := le_level_iff q hq w s e hse
      have h2 := level_le q w s e
      have h1 := (hlev _ (Nat.sub_le _ _)).2 ⟨hs, add_le_of_dvd hs he hse⟩
      obtain ⟨h4, h5⟩ := (hlev _ h2).1 (Nat.le_refl _)
      have h6 := fun hlt hn => Nat.lt_irrefl _ ((hlev _ hlt).2 hn)
      rw [nextCellK_eq_nextCell q hq w d s e hd hs he hse, nextCell_eq, Nat.one_shiftLeft]
      generalize level q w s e = k at h1 h2 h4 h5 h6 ⊢
      have hp : s < s + 2 ^ (q.dim * k) := Nat.lt_add_of_pos_right (Nat.two_pow_pos _)
      have hs' : 2 ^ q.shiftFromMax w d ∣ s + 2 ^ (q.dim * k) :=
        Nat.dvd_add hs (Nat.pow_dvd_pow 2 (Nat.mul_le_mul_left _ h1))
      have hf' : e - (s + 2 ^ (q.dim * k)) ≤ f := by
        rw [Nat.sub_add_eq]
        exact Nat.le_trans (Nat.sub_le_sub_right hf _) (Nat.sub_le_of_le_add (Nat.add_le_add_left (Nat.two_pow_pos _) f))
      obtain ⟨i1, i2⟩ := ih (s + 2 ^ (q.dim * k)) e hf' h5 hs' he
      have ht := tileOf_block q w k s h2 h4
      -- `maxDepth − k ≤ d` and `maxDepth − d ≤ k` (`h1`) both say `maxDepth ≤ k + d`
      have hdep : q.maxDepth w - k ≤ d := Nat.sub_le_iff_le_add'.2 (Nat.sub_le_iff_le_add.1 h1)
      rw [List.map_cons, ht]
      exact ⟨⟨_, by rw [rangeOfCell_eq, ht], hp, h5, hdep, i1⟩, rfl, h4, h5, h2, h6, i2⟩

theorem cellsOfRange_tiles (q : Qty) (hq : q.dim = 1 ∨ q.dim = 2) (w d : Nat) (hd : d ≤ q.maxDepth w) :
    ∀ (fuel s e : Nat), e - s ≤ fuel → s ≤ e → 2 ^ q.shiftFromMax w d ∣ s → 2 ^ q.shiftFromMax w d ∣ e →
      Tiles q w d s e (cellsOfRange q w d fuel s e) :=
  fun fuel s e hf hse hs he => (cellsOfRange_walk q hq w d hd fuel s e hf hse hs he).1

theorem mem_of_tiles (q : Qty) (w d : Nat) : ∀ (cs : List Cell) (s e : Nat), Tiles q w d s e cs →
    ∀ x, mem x (cs.map (rangeOfCell q w)) ↔ s ≤ x ∧ x < e := by
  intro cs
  induction cs with
  | nil =>
    intro s e h x
    exact ⟨False.elim, fun hx => Nat.lt_irrefl x (Nat.lt_of_lt_of_le hx.2 (h ▸ hx.1))⟩
  | cons c t ih =>
    intro s e h x
    obtain ⟨s', h1, h2, h3, _, h5⟩ := h
    rw [List.map_cons, mem, h1, ih s' e h5 x]
    exact ico_append (Nat.le_of_lt h2) h3

theorem tiles_le {q : Qty} {w d : Nat} : ∀ {cs : List Cell} {s e : Nat}, Tiles q w d s e cs → s ≤ e := by
  intro cs s e h
  cases cs with
  | nil => exact Nat.le_of_eq h
  | cons c t =>
    obtain ⟨s', _, h2, h3, _⟩ := h
    exact Nat.le_trans (Nat.le_of_lt h2) h3

theorem tiles_depth (q : Qty) (w d : Nat) : ∀ (cs : List Cell) (s e : Nat), Tiles q w d s e cs → ∀ c ∈ cs, c.1 ≤ d := by
  intro cs
  induction cs with
  | nil => intro _ _ _ c hc; cases hc
  | cons c0 t ih =>
    intro s e h c hc
    obtain ⟨s', _, _, _, h4, h5⟩ := h
    cases hc with
    | head => exact h4
    | tail _ hm => exact ih s' e h5 c hm

theorem rangesOfCellsFrom_touch (q : Qty) (w a : Nat) (c : Cell) (t : List Cell) :
    rangesOfCellsFrom q w (a, (rangeOfCell q w c).1) (c :: t) = rangesOfCellsFrom q w (a, (rangeOfCell q w c).2) t :=
  if_pos (Nat.le_refl _)

theorem rangesOfCellsFrom_tiles (q : Qty) (w d : Nat) : ∀ (cs : List Cell) (a s e : Nat) (rest : List Cell),
    Tiles q w d s e cs →
    rangesOfCellsFrom q w (a, s) (cs ++ rest) = rangesOfCellsFrom q w (a, e) rest := by
  intro cs
  induction cs with
  | nil => intro a s e rest h; cases h; rfl
  | cons c t ih =>
    intro a s e rest h
    obtain ⟨s', h1, _, _, _, h5⟩ := h
    have ht := rangesOfCellsFrom_touch q w a c (t ++ rest)
    rw [h1] at ht
    exact ht.trans (ih a s' e rest h5)

theorem rangesOfCellsFrom_tiles_gap (q : Qty) (w d : Nat) (cur : Rng) (cs rest : List Cell) (s e : Nat)
    (h : Tiles q w d s e cs) (hse : s < e) (hgap : cur.2 < s) :
    rangesOfCellsFrom q w cur (cs ++ rest) = cur :: rangesOfCellsFrom q w (s, e) rest := by
  cases cs with
  | nil => exact absurd h (Nat.ne_of_lt hse)
  | cons c cs =>
    obtain ⟨s', e1, -, -, -, e5⟩ := h
    rw [List.cons_append, rangesOfCellsFrom, e1, if_neg (Nat.not_le_of_gt hgap), rangesOfCellsFrom_tiles q w d cs s s' e _ e5]

theorem rangesOfCells_tiles (q : Qty) (w d : Nat) (cs rest : List Cell) (s e : Nat)
    (h : Tiles q w d s e cs) (hse : s < e) :
    rangesOfCells q w (cs ++ rest) = rangesOfCellsFrom q w (s, e) rest := by
  cases cs with
  | nil => exact absurd h (Nat.ne_of_lt hse)
  | cons c cs =>
    obtain ⟨s', e1, -, -, -, e5⟩ := h
    rw [List.cons_append, rangesOfCells, e1, rangesOfCellsFrom_tiles q w d cs s s' e _ e5]

def cellsOfFrom (q : Qty) (w d : Nat) (l : List Rng) : List Cell :=
  l.flatMap fun r => cellsOfRange q w d (r.2 - r.1) r.1 r.2

theorem cellsOf_eq (q : Qty) (w d : Nat) (l : List Rng) : cellsOf q w d l = cellsOfFrom q w d l := rfl

/-- The generalisation the induction needs: a current range `cur` that ends strictly before the list starts. -/
theorem rangesOfCellsFrom_cells (q : Qty) (hq : q.dim = 1 ∨ q.dim = 2) (w d : Nat) (hd : d ≤ q.maxDepth w) :
    ∀ (l : List Rng) (cur : Rng), CanonFrom (cur.2 + 1) l → Aligned (2 ^ q.shiftFromMax w d) l →
      rangesOfCellsFrom q w cur (cellsOfFrom q w d l) = cur :: l := by
  intro l
  induction l with
  | nil => intro cur _ _; rfl
  | cons r t ih =>
    intro cur ⟨h1, h2, h3⟩ ha
    have har := ha r List.mem_cons_self
    have ht := cellsOfRange_tiles q hq w d hd (r.2 - r.1) r.1 r.2 (Nat.le_refl _) (Nat.le_of_lt h2) har.1 har.2
    rw [cellsOfFrom, List.flatMap_cons, rangesOfCellsFrom_tiles_gap q w d cur _ _ r.1 r.2 ht h2 h1]
    exact congrArg _ (ih (r.1, r.2) h3 (fun x hx => ha x (List.mem_cons_of_mem _ hx)))

theorem rangesOfCells_cellsOf (q : Qty) (hq : q.dim = 1 ∨ q.dim = 2) (w d : Nat) (hd : d ≤ q.maxDepth w)
    (l : List Rng) (hc : Canon l) (ha : Aligned (2 ^ q.shiftFromMax w d) l) :
    rangesOfCells q w (cellsOf q w d l) = l := by
  cases l with
  | nil => rfl
  | cons r t =>
    obtain ⟨_, h2, h3⟩ := hc
    have har := ha r List.mem_cons_self
    have ht := cellsOfRange_tiles q hq w d hd (r.2 - r.1) r.1 r.2 (Nat.le_refl _) (Nat.le_of_lt h2) har.1 har.2
    rw [cellsOf, List.flatMap_cons, rangesOfCells_tiles q w d _ _ r.1 r.2 ht h2]
    exact rangesOfCellsFrom_cells q hq w d hd t (r.1, r.2) h3 (fun x hx => ha x (List.mem_cons_of_mem _ hx))

theorem cellsOf_cover (q : Qty) (hq : q.dim = 1 ∨ q.dim = 2) (w d : Nat) (hd : d ≤ q.maxDepth w)
    (l : List Rng) (hne : ∀ r ∈ l, r.1 ≤ r.2) (ha : Aligned (2 ^ q.shiftFromMax w d) l) (x : Nat) :
    mem x ((cellsOf q w d l).map (rangeOfCell q w)) ↔ mem x l := by
  rw [cellsOf, List.map_flatMap, mem_flatMap, mem_iff_exists x l]
  exact exists_congr fun r => and_congr_right fun hr => mem_of_tiles q w d _ _ _
    (cellsOfRange_tiles q hq w d hd (r.2 - r.1) r.1 r.2 (Nat.le_refl _) (hne r hr) (ha r hr).1 (ha r hr).2) x

end Moc
