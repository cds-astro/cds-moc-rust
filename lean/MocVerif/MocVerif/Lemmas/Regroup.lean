/-
  C09 / C10 / C19 — `time_space_iter`: from the flat form to `RangeMOC2` elements.  Consecutive entries with the same
  coverage become one element, their time ranges its time MOC.  That time MOC is canonical because a valid flat
  coverage never lets two entries of equal coverage touch (`VF.unfused`): there is a gap between their time ranges.
-/
import MocVerif.Lemmas.FlatST
import MocVerif.Lemmas.Query
import MocVerif.Lemmas.ST

namespace Moc.Merge2D
open Moc

/-- The element being built has the time ranges `tl` and the coverage `sp`.  The second conjunct is what the judge
    asks of the elements that follow the one the caller closes (`validSTB_cons_iff`). -/
theorem regroupFrom_spec : ∀ (rest : FlatST) (tl : List Rng) (sp : Space),
    Canon tl → tl ≠ [] → Canon sp → sp ≠ [] → VF Canon (lastEnd tl) (some sp) rest →
    validSTB (regroupFrom (tl, sp) rest) = true ∧
    (∀ f ∈ regroupFrom (tl, sp) rest, firstStart tl ≤ firstInstant f) ∧
    ∀ t s, memST t s (regroupFrom (tl, sp) rest) ↔ (mem t tl ∧ mem s sp) ∨ memFlat t s rest := by
  intro rest
  induction rest with
  | nil =>
    intro tl sp hc hne hcs hns _
    refine ⟨(validSTB_cons_iff _ _).2 ⟨hc, hne, hcs, hns, fun _ h => (nomatch h), rfl⟩, ?_, fun t s => ?_⟩
    · intro f hf; cases List.mem_singleton.1 hf; exact Nat.le_refl _
    · simp only [regroupFrom, memST_cons, memST_nil, memFlat_nil]
  | cons x rest ih =>
    intro tl sp hc hne hcs hns hv
    have hstart := hv.prev_le
    simp only [regroupFrom]
    by_cases heq : (x.2 == sp) = true
    · -- same coverage: the ranges do not touch
      rw [if_pos heq]
      cases (beq_iff_eq.1 heq : x.2 = sp)
      have hgap : lastEnd tl + 1 ≤ x.1.1 := Nat.lt_of_le_of_ne hstart fun h => hv.unfused ⟨h, rfl⟩
      have hcan : Canon (tl ++ [x.1]) := CanonFrom.append (k := x.1.1) hc ⟨Nat.le_refl _, hv.range_lt, trivial⟩
        (Nat.zero_le _) fun y hy => Nat.lt_of_lt_of_le (Nat.succ_lt_succ (mem_bounds tl 0 hc y hy).2) hgap
      have := ih (tl ++ [x.1]) x.2 hcan (by simp) hcs hns (by rw [lastEnd_append]; exact hv.tail)
      rw [firstStart_append tl x.1 hne] at this
      refine ⟨this.1, this.2.1, fun t s => ?_⟩
      rw [this.2.2 t s, memFlat_cons, mem_append]
      simp only [mem_cons, mem_nil, or_false, or_and_right, or_assoc, and_assoc]
    · rw [if_neg heq]
      have := ih [x.1] x.2 ⟨Nat.zero_le _, hv.range_lt, trivial⟩ (List.cons_ne_nil _ _) hv.sat hv.ne_nil hv.tail
      have hlt := firstStart_lt_lastEnd hc hne
      refine ⟨(validSTB_cons_iff _ _).2 ⟨hc, hne, hcs, hns, fun f hf => Nat.le_trans hstart (this.2.1 f hf), this.1⟩, ?_,
        fun t s => ?_⟩
      · intro f hf
        rcases List.mem_cons.1 hf with rfl | hf
        · exact Nat.le_refl _
        · exact Nat.le_trans (Nat.le_trans (Nat.le_of_lt hlt) hstart) (this.2.1 f hf)
      · rw [memST_cons, this.2.2 t s, memFlat_cons]
        simp only [mem_cons, mem_nil, or_false, and_assoc]

theorem regroup_spec (g : FlatST) (hv : VF Canon 0 none g) :
    validSTB (regroup g) = true ∧ ∀ t s, memST t s (regroup g) ↔ memFlat t s g := by
  cases g with
  | nil => exact ⟨rfl, fun t s => by rw [memFlat_nil]; exact memST_nil t s⟩
  | cons x rest =>
    have := regroupFrom_spec rest [x.1] x.2 ⟨Nat.zero_le _, hv.range_lt, trivial⟩ (List.cons_ne_nil _ _) hv.sat hv.ne_nil
      hv.tail
    refine ⟨this.1, fun t s => ?_⟩
    simp only [regroup]
    rw [this.2.2 t s, memFlat_cons]
    simp only [mem_cons, mem_nil, or_false, and_assoc]

end Moc.Merge2D
