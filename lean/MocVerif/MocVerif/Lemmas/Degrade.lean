/-
  The eager `MocRanges::degraded` (each range rounded outwards to the cell grid, overlaps fused) covers exactly the
  cells that meet the MOC (`degradedShift_spec`); the lazy `DegradeRangeIter` yields the same list (`degradeSrc_items`).
-/
import MocVerif.Lemmas.SetOps
import MocVerif.Lemmas.Valid
import MocVerif.Model.LazyOps

namespace Moc

theorem floorTo_eq (s x : Nat) : floorTo s x = x / 2 ^ s * 2 ^ s := by
  simp [floorTo, Nat.shiftRight_eq_div_pow, Nat.shiftLeft_eq]

theorem ceilTo_eq (s x : Nat) : ceilTo s x = (x + (2 ^ s - 1)) / 2 ^ s * 2 ^ s := by
  simp [ceilTo, Nat.shiftRight_eq_div_pow, Nat.shiftLeft_eq]

def fl (c x : Nat) : Nat := x / c * c
def ce (c x : Nat) : Nat := (x + (c - 1)) / c * c

theorem ce_add_div (c x : Nat) (hc : 0 < c) (hx : 0 < x) : (x + (c - 1)) / c = (x - 1) / c + 1 := by
  rw [← Nat.add_sub_assoc hc, Nat.add_comm x, Nat.add_sub_assoc hx, Nat.add_comm c, Nat.add_div_right _ hc]

theorem mem_degraded_range (c : Nat) (hc : 0 < c) (a b x : Nat) (hab : a < b) :
    (fl c a ≤ x ∧ x < ce c b) ↔ ∃ y, a ≤ y ∧ y < b ∧ x / c = y / c := by
  -- in cell numbers: `a / c ≤ x / c ≤ (b - 1) / c`
  rw [fl, ce, ce_add_div c b hc (Nat.zero_lt_of_lt hab), ← Nat.le_div_iff_mul_le hc, ← Nat.div_lt_iff_lt_mul hc,
    Nat.lt_succ_iff]
  constructor
  · rintro ⟨h1, h2⟩
    -- the cell of `x` is that of `a`, or it starts inside the range
    by_cases hk : x / c = a / c
    · exact ⟨a, Nat.le_refl _, hab, hk⟩
    · refine ⟨x / c * c, Nat.le_of_lt ((Nat.div_lt_iff_lt_mul hc).1 (Nat.lt_of_le_of_ne h1 (Ne.symm hk))), ?_,
        (Nat.mul_div_cancel _ hc).symm⟩
      exact Nat.lt_of_le_of_lt ((Nat.le_div_iff_mul_le hc).1 h2) (Nat.sub_one_lt (Nat.ne_of_gt (Nat.zero_lt_of_lt hab)))
  · rintro ⟨y, h1, h2, h3⟩
    rw [h3]
    exact ⟨Nat.div_le_div_right h1, Nat.div_le_div_right (Nat.le_sub_one_of_lt h2)⟩

theorem fl_mono (c : Nat) {x y : Nat} (h : x ≤ y) : fl c x ≤ fl c y :=
  Nat.mul_le_mul_right c (Nat.div_le_div_right h)

theorem ce_mono (c : Nat) {x y : Nat} (h : x ≤ y) : ce c x ≤ ce c y :=
  Nat.mul_le_mul_right c (Nat.div_le_div_right (Nat.add_le_add_right h _))

theorem degradeRange_eq (s : Nat) (r : Rng) : degradeRange s r = (fl (2 ^ s) r.1, ce (2 ^ s) r.2) := by
  simp [degradeRange, floorTo_eq, ceilTo_eq, fl, ce]

theorem mem_degradeRange (sh : Nat) (r : Rng) (h : r.1 < r.2) (x : Nat) :
    ((degradeRange sh r).1 ≤ x ∧ x < (degradeRange sh r).2) ↔
      ∃ y, r.1 ≤ y ∧ y < r.2 ∧ x / 2 ^ sh = y / 2 ^ sh := by
  rw [degradeRange_eq]
  exact mem_degraded_range (2 ^ sh) (Nat.two_pow_pos sh) r.1 r.2 x h

theorem degradeRange_nonempty (sh : Nat) (r : Rng) (h : r.1 < r.2) :
    (degradeRange sh r).1 < (degradeRange sh r).2 :=
  have := (mem_degradeRange sh r h r.1).2 ⟨r.1, Nat.le_refl _, h, rfl⟩
  Nat.lt_of_le_of_lt this.1 this.2

theorem mem_map_degradeRange (sh : Nat) (l : List Rng) (hl : ∀ r ∈ l, r.1 < r.2) (x : Nat) :
    mem x (l.map (degradeRange sh)) ↔ ∃ r ∈ l, ∃ y, r.1 ≤ y ∧ y < r.2 ∧ x / 2 ^ sh = y / 2 ^ sh := by
  rw [mem_map_iff]
  exact exists_congr fun r => and_congr_right fun hr => mem_degradeRange sh r (hl r hr) x

theorem degradedShift_spec (s : Nat) (l : List Rng) (hl : Canon l) :
    Canon (degradedShift s l) ∧
    ∀ x, mem x (degradedShift s l) ↔ ∃ y, mem y l ∧ x / 2 ^ s = y / 2 ^ s := by
  have hs := hl.map_sorted (fun _ _ => fl_mono (2 ^ s)) (fun r => by rw [degradeRange_eq]) (degradeRange_nonempty s)
  have hm := mergeOverlapping_spec _ (hs.mono (Nat.zero_le _))
  exact ⟨hm.1, fun x => by rw [degradedShift, hm.2, mem_map_degradeRange s l (canon_nonempty hl) x, exists_mem_range]⟩

/-- The lazy iterator's loop (`cr.end = nr.end`, no `max`) coincides with the eager fuse on sorted
    degraded ranges because degraded ends are monotone. -/
theorem degradeFrom_eq (s : Nat) (t : List Rng) : ∀ (cur : Rng) (e : Nat), cur.2 = ce (2 ^ s) e →
    CanonFrom (e + 1) t →
    degradeFrom s cur t = mergeOvFrom cur (t.map (degradeRange s)) := by
  induction t with
  | nil => intro cur e _ _; rfl
  | cons n t ih =>
    intro cur e he ⟨h1, h2, h3⟩
    have hend : (degradeRange s n).2 = ce (2 ^ s) n.2 := by rw [degradeRange_eq]
    have hmax : max (degradeRange s n).2 cur.2 = (degradeRange s n).2 :=
      Nat.max_eq_left (by rw [hend, he]; exact ce_mono _ (by omega))
    simp only [degradeFrom, List.map, mergeOvFrom, hmax, gt_iff_lt, ← Nat.not_le, ite_not]
    rw [ih (cur.1, (degradeRange s n).2) n.2 hend h3, ih (degradeRange s n) n.2 hend h3]

theorem degradeFrom_head_eq (s : Nat) (r : Rng) (t : List Rng) (lo : Nat) (h : CanonFrom lo (r :: t)) :
    degradeFrom s (degradeRange s r) t = degradedShift s (r :: t) := by
  rw [degradedShift, List.map, mergeOverlapping]
  exact degradeFrom_eq s t _ r.2 (by rw [degradeRange_eq]) h.2.2

theorem degradedShift_eq_self {s : Nat} {l : List Rng} (hl : Canon l) (hcl : CellClosed (2 ^ s) l) :
    degradedShift s l = l :=
  have sp := degradedShift_spec s l hl
  Canon.ext sp.1 hl fun x => (sp.2 x).trans ⟨fun ⟨y, hy, h⟩ => hcl y x h.symm hy, fun hx => ⟨x, hx, rfl⟩⟩

theorem degradedShift_zero (l : List Rng) (hl : Canon l) : degradedShift 0 l = l :=
  degradedShift_eq_self hl fun x y h hx => by rw [Nat.pow_zero, Nat.div_one, Nat.div_one] at h; exact h ▸ hx

/-- `degrade(s, new_depth)` streams the eager `degraded` when the depth gets shallower, and the source itself
    otherwise (masks `!0 << 0`: nothing is rounded, and nothing is fused in a canonical list). -/
theorem degradeSrc_items (sh nd : Nat) (s : Src) (cs : Canon s.items) :
    (degradeSrc sh nd s).items = if nd < s.depth then degradedShift sh s.items else s.items := by
  unfold degradeSrc
  by_cases h : nd < s.depth
  · rw [if_pos h, if_pos h]
    cases hi : s.items with
    | nil => simp [degradedShift, mergeOverlapping]
    | cons r t => exact degradeFrom_head_eq sh r t 0 (hi ▸ cs)
  · rw [if_neg h, if_neg h]
    cases hi : s.items with
    | nil => rfl
    | cons r t =>
      have e := degradeFrom_head_eq 0 r t 0 (hi ▸ cs)
      rw [show degradeRange 0 r = r by simp [degradeRange, floorTo, ceilTo]] at e
      exact e.trans (degradedShift_zero _ (hi ▸ cs))

theorem degradeSrc_depth (sh nd : Nat) (s : Src) : (degradeSrc sh nd s).depth = min s.depth nd := by
  unfold degradeSrc
  split <;> simp only [] <;> omega

end Moc
