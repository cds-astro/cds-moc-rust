/-
  C06 — builders: order, duplicates and buffer capacity do not matter.  The fixed-depth cell builder is followed
  by a history invariant (`FdInv`): beside the builder runs the list `pushed` of all cells pushed so far, and what
  the drained MOC and the buffer cover together is what the starting MOC and `pushed` cover (`FdInv.sem`).  Every
  operation of the builder keeps it, and at `into_moc` the buffer is empty.  (`RgInv` of `RangeBuilder.lean` plays the
  same role for the range builder.)  Second half: the n-ary operators are left folds of the binary ones.
-/
import MocVerif.Lemmas.SetOps
import MocVerif.Lemmas.Shift
import MocVerif.Lemmas.InsertSort
import MocVerif.Model.Builders

namespace Moc

theorem pairwise_le_concat {a x : Nat} (hax : a ≤ x) {l : List Nat} (h : (l ++ [a]).Pairwise (· ≤ ·)) :
    (l ++ [a] ++ [x]).Pairwise (· ≤ ·) :=
  List.pairwise_append.2 ⟨h, List.pairwise_singleton _ _, fun y hy _ hx =>
    List.mem_singleton.1 hx ▸ Nat.le_trans
      ((List.mem_append.1 hy).elim (fun hl => (List.pairwise_append.1 h).2.2 y hl a List.mem_cons_self)
        fun ha => Nat.le_of_eq (List.mem_singleton.1 ha)) hax⟩

theorem mem_map_cellRange (sh : Nat) (cells : List Nat) (x : Nat) :
    mem x (cells.map fun c => (c <<< sh, (c + 1) <<< sh)) ↔ x / 2 ^ sh ∈ cells := by
  induction cells with
  | nil => exact ⟨False.elim, nofun⟩
  | cons c t ih =>
    rw [List.map_cons, mem_cons, shl_le_iff, lt_shl_iff, ih, List.mem_cons]
    exact or_congr_left ico_single

theorem sorted_map_cellRange (sh : Nat) {l : List Nat} (h : l.Pairwise (· ≤ ·)) :
    SortedFrom 0 (l.map fun c => (c <<< sh, (c + 1) <<< sh)) :=
  .of_pairwise (List.pairwise_map.2 (h.imp (shl_le_shl sh _ _))) fun _ hr =>
    let ⟨c, _, e⟩ := List.mem_map.1 hr
    e ▸ ⟨Nat.zero_le _, shl_lt_shl sh _ _ (Nat.lt_succ_self c)⟩

/-- `buff_to_moc` is `MergeOverlappingRangesIter` on the ranges of the cells: the run `[from, to)` of
    cells is the range being grown. -/
theorem cellsToRangesFrom_eq (sh : Nat) (t : List Nat) (from_ to : Nat) :
    cellsToRangesFrom sh from_ to t =
      mergeOvFrom (from_ <<< sh, to <<< sh) (t.map fun c => (c <<< sh, (c + 1) <<< sh)) := by
  fun_induction cellsToRangesFrom sh from_ to t with
  | case1 f to => rfl
  | case2 f to t ih =>
    rw [ih, List.map_cons, mergeOvFrom, if_pos (Nat.le_refl _), Nat.max_eq_left (shl_le_shl sh _ _ (Nat.le_succ to))]
  | case3 f to c t he hlt ih =>
    rw [ih, List.map_cons, mergeOvFrom, if_neg (Nat.not_le.2 (shl_lt_shl sh to c hlt))]
  | case4 f to c t he hlt ih =>
    have hc : c + 1 ≤ to := Nat.lt_of_le_of_ne (Nat.le_of_not_lt hlt) (Ne.symm he)
    rw [ih, List.map_cons, mergeOvFrom, if_pos (shl_le_shl sh _ _ (Nat.le_of_succ_le hc)),
      Nat.max_eq_right (shl_le_shl sh _ _ hc)]

theorem cellsToRanges_eq (sh : Nat) (cells : List Nat) :
    cellsToRanges sh cells = mergeOverlapping (cells.map fun c => (c <<< sh, (c + 1) <<< sh)) := by
  cases cells with
  | nil => rfl
  | cons c t => exact cellsToRangesFrom_eq sh t c (c + 1)

theorem cellsToRanges_spec (sh : Nat) (cells : List Nat) (hs : cells.Pairwise (· ≤ ·)) :
    Canon (cellsToRanges sh cells) ∧ ∀ x, mem x (cellsToRanges sh cells) ↔ x / 2 ^ sh ∈ cells := by
  rw [cellsToRanges_eq]
  have := mergeOverlapping_spec _ (sorted_map_cellRange sh hs)
  exact ⟨this.1, fun x => (this.2 x).trans (mem_map_cellRange sh cells x)⟩

theorem insertNat_isInsert : IsInsert (· ≤ ·) insertNat := ⟨fun _ => rfl, fun _ _ _ => rfl⟩

theorem sortNat_isSort : IsSort insertNat sortNat := ⟨rfl, fun _ _ => rfl⟩

theorem sortNat_spec (l : List Nat) : (sortNat l).Pairwise (· ≤ ·) ∧ ∀ y, y ∈ sortNat l ↔ y ∈ l :=
  ⟨sortNat_isSort.pairwise insertNat_isInsert (fun _ _ h => h) (fun _ _ h => Nat.le_of_not_le h)
    (fun _ _ _ => Nat.le_trans) l, fun _ => (sortNat_isSort.perm insertNat_isInsert l).mem_iff⟩

structure FdInv (sh : Nat) (b : FdBuilder) (base : List Rng) (pushed : List Nat) : Prop where
  sortedOk : b.sorted = true → b.buff.Pairwise (· ≤ ·)
  canon : Canon (b.moc.getD [])
  sem : ∀ x, (mem x (b.moc.getD []) ∨ x / 2 ^ sh ∈ b.buff) ↔ (mem x base ∨ x / 2 ^ sh ∈ pushed)

/-- `drain_buffer`, the merge with what was drained before, whatever the union `U` used.  The `match` is written as
    it is elaborated in the bodies of `FdBuilder.drain` and `RgBuilder.drain` (`generalizing := false`, `some` first)
    so that this statement unifies with the `moc` field of a drained builder. -/
theorem merged_spec {U : List Rng → List Rng → List Rng}
    (hU : ∀ l r, Canon l → Canon r → Canon (U l r) ∧ ∀ x, mem x (U l r) ↔ mem x l ∨ mem x r)
    (moc : Option (List Rng)) {new : List Rng} (hm : Canon (moc.getD [])) (hn : Canon new) :
    Canon (match (generalizing := false) moc with | some prev => U prev new | none => new) ∧
    ∀ x, mem x (match (generalizing := false) moc with | some prev => U prev new | none => new) ↔ mem x (moc.getD []) ∨ mem x new := by
  cases moc with
  | none => exact ⟨hn, fun x => ⟨Or.inr, fun h => h.elim False.elim id⟩⟩
  | some prev => exact hU prev new hm hn

theorem FdInv.drain {sh : Nat} {b : FdBuilder} {base : List Rng} {pushed : List Nat} (h : FdInv sh b base pushed) :
    FdInv sh (b.drain sh) base pushed := by
  have hbuf : (if b.sorted then b.buff else sortNat b.buff).Pairwise (· ≤ ·) ∧
      ∀ y, y ∈ (if b.sorted then b.buff else sortNat b.buff) ↔ y ∈ b.buff := by
    split
    · exact ⟨h.sortedOk ‹_›, fun _ => Iff.rfl⟩
    · exact sortNat_spec b.buff
  have sp := cellsToRanges_spec sh _ hbuf.1
  have mg := merged_spec union_spec b.moc h.canon sp.1
  refine ⟨fun _ => .nil, mg.1, fun x => ?_⟩
  rw [← h.sem, ← hbuf.2, ← sp.2]
  exact (or_iff_left (List.not_mem_nil)).trans (mg.2 x)

theorem FdInv.flush {sh cap : Nat} {b : FdBuilder} {base : List Rng} {pushed : List Nat} (h : FdInv sh b base pushed) :
    FdInv sh (if b.buff.length = cap then b.drain sh else b) base pushed := by
  split
  · exact h.drain
  · exact h

theorem FdInv.append {sh : Nat} {b : FdBuilder} {base : List Rng} {pushed : List Nat} (h : FdInv sh b base pushed)
    (idx : Nat) (s' : Bool) (hs : s' = true → (b.buff ++ [idx]).Pairwise (· ≤ ·)) :
    FdInv sh { b with sorted := s', buff := b.buff ++ [idx] } base (pushed ++ [idx]) :=
  ⟨hs, h.canon, fun x => by rw [List.mem_append, List.mem_append, ← or_assoc, ← or_assoc, h.sem]⟩

theorem FdInv.dup {sh : Nat} {b : FdBuilder} {base : List Rng} {pushed : List Nat} (h : FdInv sh b base pushed)
    {idx : Nat} (hi : idx ∈ b.buff) : FdInv sh b base (pushed ++ [idx]) :=
  ⟨h.sortedOk, h.canon, fun x => by
    rw [List.mem_append, ← or_assoc, ← h.sem]
    exact (or_iff_left_of_imp fun hk => Or.inr (List.mem_singleton.1 hk ▸ hi)).symm⟩

theorem FdInv.push {sh cap : Nat} {b : FdBuilder} {base : List Rng} {pushed : List Nat} (h : FdInv sh b base pushed) (idx : Nat) :
    FdInv sh (b.push sh cap idx) base (pushed ++ [idx]) := by
  unfold FdBuilder.push
  obtain ⟨buff, s, m⟩ := b
  rcases List.eq_nil_or_concat buff with rfl | ⟨d, last, rfl⟩
  · exact (h.append idx _ fun _ => List.pairwise_singleton _ _).flush
  · simp only [List.concat_eq_append, List.getLast?_concat] at h ⊢
    by_cases he : last = idx
    · rw [if_pos he]
      exact h.dup (he ▸ List.mem_concat_self)
    · rw [if_neg he]
      refine (h.append idx _ fun hs => ?_).flush
      simp only [Bool.and_eq_true, Bool.not_eq_true', decide_eq_false_iff_not] at hs
      exact pairwise_le_concat (Nat.le_of_not_lt hs.2) (h.sortedOk hs.1)

theorem FdInv.foldl {sh cap : Nat} {base : List Rng} (cells : List Nat) : ∀ {b : FdBuilder} {pushed : List Nat}, FdInv sh b base pushed →
    FdInv sh (cells.foldl (FdBuilder.push sh cap) b) base (pushed ++ cells) := by
  induction cells with
  | nil => exact fun h => (List.append_nil _).symm ▸ h
  | cons c t ih =>
    intro b pushed h
    rw [List.foldl_cons, List.append_cons]
    exact ih (h.push c)

theorem FdInv.intoMoc {sh : Nat} {b : FdBuilder} {base : List Rng} {pushed : List Nat} (h : FdInv sh b base pushed) :
    Canon (b.intoMoc sh) ∧ ∀ x, mem x (b.intoMoc sh) ↔ mem x base ∨ x / 2 ^ sh ∈ pushed :=
  ⟨h.drain.canon, fun x => (or_iff_left List.not_mem_nil).symm.trans (h.drain.sem x)⟩

/-- The specification: left fold, with the code's convention `(0, ∅)` for the empty list. -/
def foldOp (op : DMoc → DMoc → DMoc) : List DMoc → DMoc
  | [] => (0, [])
  | a :: t => t.foldl op a

section kway
variable (op : DMoc → DMoc → DMoc) (P : DMoc → Prop)
variable (hP : ∀ a b, P a → P b → P (op a b))
variable (hA : ∀ a b c, P a → P b → P c → op (op a b) c = op a (op b c))

include hP in
theorem group4_P (l : List DMoc) (hl : ∀ m ∈ l, P m) : ∀ m ∈ group4 op l, P m := by
  fun_induction group4 op l with
  | case1 a b c d t ih =>
    simp only [List.forall_mem_cons] at hl ⊢
    exact ⟨hP _ _ (hP _ _ hl.1 hl.2.1) (hP _ _ hl.2.2.1 hl.2.2.2.1), ih hl.2.2.2.2⟩
  | case2 a b c =>
    simp only [List.forall_mem_cons] at hl ⊢
    exact ⟨hP _ _ (hP _ _ hl.1 hl.2.1) hl.2.2.1, hl.2.2.2⟩
  | case3 a b =>
    simp only [List.forall_mem_cons] at hl ⊢
    exact ⟨hP _ _ hl.1 hl.2.1, hl.2.2⟩
  | case4 a => exact hl
  | case5 => exact hl

include hP hA in
theorem foldl_group4 (l : List DMoc) : ∀ acc, P acc → (∀ m ∈ l, P m) →
    (group4 op l).foldl op acc = l.foldl op acc := by
  fun_induction group4 op l with
  | case1 a b c d t ih =>
    intro acc hacc hl
    simp only [List.forall_mem_cons] at hl
    obtain ⟨pa, pb, pc, pd, ht⟩ := hl
    have pab := hP _ _ pa pb
    rw [List.foldl_cons, ih _ (hP _ _ hacc (hP _ _ pab (hP _ _ pc pd))) ht,
      ← hA acc _ _ hacc pab (hP _ _ pc pd), ← hA acc a b hacc pa pb,
      ← hA _ c d (hP _ _ (hP _ _ hacc pa) pb) pc pd]
    rfl
  | case2 a b c =>
    intro acc hacc hl
    simp only [List.forall_mem_cons] at hl
    obtain ⟨pa, pb, pc, -⟩ := hl
    show op acc (op (op a b) c) = op (op (op acc a) b) c
    rw [← hA acc _ c hacc (hP _ _ pa pb) pc, ← hA acc a b hacc pa pb]
  | case3 a b =>
    intro acc hacc hl
    show op acc (op a b) = op (op acc a) b
    exact (hA acc a b hacc (hl a List.mem_cons_self) (hl b (List.mem_cons_of_mem _ List.mem_cons_self))).symm
  | case4 a => intros; rfl
  | case5 => intros; rfl

include hP hA in
/-- `kway_<op>` is the left fold: the 4-by-4 grouping and its recursion are invisible for an operator that is
    associative on a closed class `P` of values. -/
theorem kway_eq_fold (l : List DMoc) (hl : ∀ m ∈ l, P m) : kway op l = foldOp op l := by
  fun_induction kway op l with
  | case1 => rfl
  | case2 a => rfl
  | case3 a b => rfl
  | case4 a b c => rfl
  | case5 a b c d t ih =>
    rw [ih (group4_P op P hP _ hl)]
    simp only [List.forall_mem_cons] at hl
    obtain ⟨pa, pb, pc, pd, ht⟩ := hl
    have pab := hP _ _ pa pb
    show (group4 op t).foldl op (op (op a b) (op c d)) = t.foldl op (op (op (op a b) c) d)
    rw [foldl_group4 op P hP hA t _ (hP _ _ pab (hP _ _ pc pd)) ht, ← hA _ c d pab pc pd]

end kway

/-- Two canonical lists with the same members are equal: an operation whose membership is an associative
    connective `c` of the memberships is associative. -/
theorem assoc_of_spec {f : List Rng → List Rng → List Rng} {c : Prop → Prop → Prop}
    (hf : ∀ l r, Canon l → Canon r → Canon (f l r) ∧ ∀ x, mem x (f l r) ↔ c (mem x l) (mem x r))
    (hc : ∀ p q r, c (c p q) r ↔ c p (c q r)) (a b d : DMoc) (ha : Canon a.2) (hb : Canon b.2) (hd : Canon d.2) :
    (max (max a.1 b.1) d.1, f (f a.2 b.2) d.2) = (max a.1 (max b.1 d.1), f a.2 (f b.2 d.2)) := by
  have ab := hf a.2 b.2 ha hb
  have bd := hf b.2 d.2 hb hd
  have l := hf _ d.2 ab.1 hd
  have r := hf a.2 _ ha bd.1
  rw [Nat.max_assoc, Canon.ext l.1 r.1 fun x => by rw [l.2, r.2, ab.2, bd.2]; exact hc ..]

theorem kway_of_spec {f : List Rng → List Rng → List Rng} {c : Prop → Prop → Prop}
    (hf : ∀ l r, Canon l → Canon r → Canon (f l r) ∧ ∀ x, mem x (f l r) ↔ c (mem x l) (mem x r))
    (hc : ∀ p q r, c (c p q) r ↔ c p (c q r)) (l : List DMoc) (hl : ∀ m ∈ l, Canon m.2) :
    kway (fun a b => (max a.1 b.1, f a.2 b.2)) l = foldOp (fun a b => (max a.1 b.1, f a.2 b.2)) l :=
  kway_eq_fold (fun a b => (max a.1 b.1, f a.2 b.2)) (fun m => Canon m.2)
    (fun a b ha hb => (hf a.2 b.2 ha hb).1) (assoc_of_spec hf hc) l hl

/-- `p ↔ ¬ q` is xor, the membership connective of `xorLoop_spec`. -/
theorem iff_not_assoc (p q r : Prop) : ((p ↔ ¬ q) ↔ ¬ r) ↔ (p ↔ ¬ (q ↔ ¬ r)) := by
  by_cases hp : p <;> by_cases hq : q <;> simp [hp, hq]

end Moc
