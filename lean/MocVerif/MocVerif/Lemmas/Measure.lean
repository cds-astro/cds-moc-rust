/-
  `range_sum` and the width accumulated by `range_fraction` are numbers of covered indices.
  The ranges of a canonical list are disjoint, so covered indices are counted range by range
  (`coveredIn_cons`); the start index of `range_fraction` skips the ranges that end before the query
  (`fracStart_cons`).
-/
import MocVerif.Lemmas.Query

namespace Moc

theorem rangeSum_append (a b : List Rng) : rangeSum (a ++ b) = rangeSum a + rangeSum b := by
  induction a with
  | nil => simp [rangeSum]
  | cons r t ih => rw [List.cons_append, rangeSum, rangeSum, ih, Nat.add_assoc]

def card (ub : Nat) (l : List Rng) : Nat := ((List.range ub).filter fun x => decide (mem x l)).length

def coveredIn (l : List Rng) (a b : Nat) : Nat := (List.range' a (b - a)).countP (fun y => decide (mem y l))

theorem coveredIn_eq_zero {l : List Rng} {a b : Nat} (h : ∀ y, a ≤ y → y < b → ¬ mem y l) : coveredIn l a b = 0 := by
  unfold coveredIn
  rw [List.countP_eq_zero]
  intro y hy
  have := List.mem_range'_1.1 hy
  rw [decide_eq_true_eq]
  exact h y this.1 (by omega)

theorem countP_range'_interval (c d a n : Nat) :
    (List.range' a n).countP (fun y => decide (c ≤ y ∧ y < d)) = min d (a + n) - max c a := by
  induction n with
  | zero => exact (Nat.sub_eq_zero_of_le (Nat.le_trans (Nat.min_le_right _ _) (Nat.le_max_right _ _))).symm
  | succ n ih =>
    rw [List.range'_concat, List.countP_append, ih, List.countP_singleton, Nat.one_mul, ← Nat.add_assoc]
    by_cases h1 : a + n < d
    · rw [Nat.min_eq_right (Nat.le_of_lt h1), Nat.min_eq_right h1]
      by_cases h2 : c ≤ a + n
      · rw [if_pos (decide_eq_true ⟨h2, h1⟩), Nat.succ_sub (Nat.max_le.2 ⟨h2, Nat.le_add_right a n⟩)]
      · have : a + n + 1 ≤ max c a := Nat.le_trans (Nat.not_le.1 h2) (Nat.le_max_left _ _)
        rw [if_neg (fun h => h2 (of_decide_eq_true h).1), Nat.sub_eq_zero_of_le this,
          Nat.sub_eq_zero_of_le (Nat.le_of_succ_le this)]
    · rw [if_neg (fun h => h1 (of_decide_eq_true h).2), Nat.min_eq_left (Nat.not_lt.1 h1),
        Nat.min_eq_left (Nat.le_succ_of_le (Nat.not_lt.1 h1))]
      rfl

theorem countP_or_disjoint (p q : Nat → Bool) : ∀ ys : List Nat, (∀ y ∈ ys, ¬(p y = true ∧ q y = true)) →
    ys.countP (fun y => p y || q y) = ys.countP p + ys.countP q := by
  intro ys
  induction ys with
  | nil => intro _; rfl
  | cons y ys ih =>
    intro h
    rw [List.countP_cons, List.countP_cons, List.countP_cons, ih (fun z hz => h z (List.mem_cons_of_mem _ hz))]
    have := h y List.mem_cons_self
    cases hp : p y <;> cases hq : q y <;> simp [hp, hq] at this ⊢ <;> omega

theorem coveredIn_cons {lo : Nat} {r : Rng} {t : List Rng} (hc : CanonFrom lo (r :: t)) {a b : Nat} (hab : a ≤ b) :
    coveredIn (r :: t) a b = (min r.2 b - max r.1 a) + coveredIn t a b := by
  unfold coveredIn
  have hb := countP_range'_interval r.1 r.2 a (b - a)
  rw [Nat.add_sub_cancel' hab] at hb
  rw [← hb, ← countP_or_disjoint]
  · apply List.countP_congr
    intro y _
    simp only [mem_cons, Bool.or_eq_true, decide_eq_true_eq]
  · intro y _ hh
    simp only [decide_eq_true_eq] at hh
    exact Nat.lt_irrefl y (Nat.lt_trans hh.1.2 (hc.2.2.lb hh.2))

theorem rangeSum_counts_from {lo N : Nat} {l : List Rng} (hc : CanonFrom lo l) (hN : ∀ r ∈ l, r.2 ≤ N) (hlo : lo ≤ N) :
    coveredIn l lo N = rangeSum l := by
  induction l with
  | nil => simp [coveredIn, rangeSum]
  | cons r t ih =>
    rw [coveredIn_cons hc hlo, rangeSum, Nat.min_eq_left (hN r List.mem_cons_self), Nat.max_eq_left hc.1,
      ih (hc.2.2.mono (Nat.le_succ_of_le (Nat.le_trans hc.1 (Nat.le_of_lt hc.2.1))))
        fun q hq => hN q (List.mem_cons_of_mem _ hq)]

theorem fracWidth_counts {x : Rng} (hx : x.1 < x.2) {lo : Nat} {t : List Rng} (hc : CanonFrom lo t) :
    fracWidth x t = coveredIn t x.1 x.2 := by
  induction t generalizing lo with
  | nil => simp [fracWidth, coveredIn]
  | cons r t ih =>
    unfold fracWidth
    split
    · rename_i hle
      exact (coveredIn_eq_zero fun y _ hy2 hm =>
        Nat.lt_irrefl y (Nat.lt_of_lt_of_le hy2 (Nat.le_trans hle (hc.head_le hm)))).symm
    · rw [ih hc.2.2, coveredIn_cons hc (Nat.le_of_lt hx)]

theorem filter_start_lt_nil {lo a : Nat} {t : List Rng} (h : CanonFrom lo t) (hlo : a ≤ lo) :
    t.filter (fun r => decide (r.1 < a)) = [] := by
  rw [List.filter_eq_nil_iff]
  intro r hr
  rw [decide_eq_true_eq]
  exact Nat.not_lt.2 (Nat.le_trans hlo (h.start_ge hr))

theorem any_start_eq_false {lo a : Nat} {t : List Rng} (h : CanonFrom lo t) (hlo : a < lo) :
    t.any (fun r => r.1 == a) = false := by
  rw [List.any_eq_false]
  intro r hr
  rw [beq_iff_eq]
  exact Nat.ne_of_gt (Nat.lt_of_lt_of_le hlo (h.start_ge hr))

theorem fracStart_cons {lo : Nat} {q : Rng} {t : List Rng} (hc : CanonFrom lo (q :: t)) (a : Nat) :
    fracStart (q :: t) a = if q.2 ≤ a then 1 + fracStart t a else 0 := by
  unfold fracStart
  rw [List.filter_cons, List.any_cons]
  by_cases hq : q.2 ≤ a
  · -- `q` is counted; the range before index `i` is the same range of `t`, or `q` itself when `i = 1`
    have h1 : q.1 < a := Nat.lt_of_lt_of_le hc.2.1 hq
    rw [if_pos hq, if_pos (decide_eq_true h1), beq_eq_false_iff_ne.2 (Nat.ne_of_lt h1), Bool.false_or, List.length_cons]
    generalize (t.filter (·.1 < a)).length = n
    cases t.any (·.1 == a)
    · cases n with
      | zero => simpa using hq
      | succ m => simp [Nat.add_comm 1]; split <;> rfl
    · exact Nat.add_comm n 1
  · -- every later range starts after `a`
    have h3 : CanonFrom (a + 1) t := hc.2.2.mono (Nat.succ_le_succ (Nat.le_of_not_le hq))
    rw [if_neg hq, filter_start_lt_nil h3 (Nat.le_succ a), any_start_eq_false h3 (Nat.lt_succ_self a), Bool.or_false]
    by_cases h1 : q.1 < a
    · rw [if_pos (decide_eq_true h1), beq_eq_false_iff_ne.2 (Nat.ne_of_lt h1)]
      simpa using Nat.lt_of_not_le hq
    · simp [h1]

theorem fracWidth_drop_fracStart {x : Rng} (hx : x.1 < x.2) {lo : Nat} {l : List Rng} (hc : CanonFrom lo l) :
    fracWidth x (l.drop (fracStart l x.1)) = coveredIn l x.1 x.2 := by
  induction l generalizing lo with
  | nil => simp [fracStart, fracWidth, coveredIn]
  | cons q t ih =>
    rw [fracStart_cons hc]
    split
    · rename_i hq
      rw [Nat.add_comm, List.drop_succ_cons, ih hc.2.2, coveredIn_cons hc (Nat.le_of_lt hx),
        Nat.sub_eq_zero_of_le (Nat.le_trans (Nat.min_le_left _ _) (Nat.le_trans hq (Nat.le_max_right _ _))), Nat.zero_add]
    · exact fracWidth_counts hx hc

/-- `range_fraction`: the integer pair handed to the final `f64` division depends only on the number of covered
    indices of the query range (both members shifted alike when the length exceeds 52 bits). -/
theorem rangeFractionPair_spec (l : List Rng) (hl : Canon l) (x : Rng) (hx : x.1 < x.2) :
    rangeFractionPair l x =
      (let c := coveredIn l x.1 x.2
       let tot := x.2 - x.1
       if c = 0 then (0, 1)
       else if c = tot then (1, 1)
       else if tot >>> 52 > 0 then (c >>> bitLen (tot >>> 52), tot >>> bitLen (tot >>> 52))
       else (c, tot)) := by
  unfold rangeFractionPair
  by_cases hq : (l.isEmpty || decide (x.2 ≤ firstStart l) || decide (lastEnd l ≤ x.1)) = true
  · -- quick rejection: nothing of `x` is covered
    have hc : coveredIn l x.1 x.2 = 0 := coveredIn_eq_zero fun y hy1 hy2 => not_mem_of_rejected hl hq hy1 hy2
    rw [if_pos hq, if_pos hc]
  · rw [if_neg hq, fracWidth_drop_fracStart hx hl]

end Moc
