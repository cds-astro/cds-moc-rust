/-
  C20: the selected cells are sub-cells of map cells (`selectWithMass_prov`), every cell lying between the two
  thresholds is selected (`selectWithMass_between`), the scan goes in the requested density order
  (`sortedOf_ordered`).
-/
import MocVerif.Lemmas.ValuedMass

namespace Moc
open Moc.C20 Moc.Mass

/-- `c` is the cell `(d0, i0)` or one of its descendants. -/
def SubCell (d0 i0 : Nat) (c : Cell) : Prop := d0 ≤ c.1 ∧ c.2 / 4 ^ (c.1 - d0) = i0

theorem SubCell.self (d i : Nat) : SubCell d i (d, i) := by simp [SubCell]

theorem SubCell.child (d i k : Nat) (hk : k < 4) : SubCell d i (d + 1, i * 4 + k) :=
  ⟨Nat.le_succ _, by
    show (i * 4 + k) / 4 ^ (d + 1 - d) = i
    rw [Nat.add_sub_cancel_left, Nat.pow_one, Nat.mul_comm, Nat.mul_add_div (by decide), Nat.div_eq_of_lt hk]; rfl⟩

theorem SubCell.trans {d i k : Nat} (hk : k < 4) {c : Cell} (h : SubCell (d + 1) (i * 4 + k) c) : SubCell d i c := by
  obtain ⟨h1, h2⟩ := h
  refine ⟨Nat.le_of_succ_le h1, ?_⟩
  rw [pow_depth_succ h1, ← Nat.div_div_eq_div_mul, h2, Nat.mul_comm, Nat.mul_add_div (by decide), Nat.div_eq_of_lt hk]; rfl

theorem descentG_sub {lower : Bool} {ix : Nat → Nat} (hix : ∀ p < 4, ix p < 4) {f d i v : Nat} {s : Bool} {t : Nat}
    {cs : List Cell} (h : descentG lower ix f d i v s t = some cs) : ∀ c ∈ cs, SubCell d i c :=
  descentG_pieces lower ix SubCell SubCell.self (fun d i k hk => SubCell.child d i _ (hix k hk))
    (fun _ _ k _ hk => SubCell.trans (hix k hk)) _ _ _ _ _ _ _ h

variable {maxDepth md : Nat} {cells : List VCell} {from_ to : Nat} {asc strict noSplit rev : Bool}
  {cs : List Cell} {M uLow uHigh : Nat}

theorem boundary_sub {lower : Bool} {c : VCell} {t m u : Nat}
    (h : boundary lower md c strict noSplit rev t = some (cs, m, u)) : ∀ x ∈ cs, SubCell c.depth c.idx x := by
  unfold boundary at h
  cases noSplit
  · obtain ⟨ds, hd, h⟩ := Option.map_eq_some_iff.1 h
    cases h
    refine descentG_sub ?_ hd
    cases rev
    · exact fun p hp => hp
    · exact fun p _ => Nat.lt_succ_of_le (Nat.sub_le 3 p)
  · cases h
    intro x hx
    cases strict
    · rw [List.mem_singleton.1 hx]; exact SubCell.self _ _
    · cases hx

theorem selectWithMass_prov
    (h : selectWithMass maxDepth cells from_ to asc strict noSplit rev = some (cs, M, uLow, uHigh)) :
    ∀ c ∈ cs, ∃ v ∈ cells, SubCell v.depth v.idx c := by
  obtain ⟨⟨accL, lowCells, restA, mLow, uLow0⟩, hl, hh⟩ := selectWithMass_some h
  obtain ⟨acc, tk, rest, -, hsorted, -, -, hlow⟩ := lowStage_some hl
  obtain ⟨whole, rest2, -, rfl, -, b, m, rfl, -, -, hhigh⟩ := highStage_some hh
  have hrest : ∀ v ∈ rest, v ∈ cells := fun _ => mem_of_sortedOf_suffix hsorted
  have hrestA : ∀ v ∈ whole ++ rest2, v ∈ cells := by
    rcases hlow with ⟨c, rfl, -⟩ | ⟨-, -, rfl, -⟩
    · exact fun v hv => hrest v (List.mem_cons_of_mem _ hv)
    · exact hrest
  intro x hx
  rw [List.mem_append, List.mem_append] at hx
  rcases hx with (hx | hx) | hx
  · -- a piece of the lower boundary cell
    rcases hlow with ⟨c, rfl, -, -, -, hb⟩ | ⟨-, -, -, rfl, -⟩
    · exact ⟨c, hrest c List.mem_cons_self, boundary_sub hb x hx⟩
    · cases hx
  · -- a cell taken whole
    obtain ⟨v, hv, rfl⟩ := List.mem_map.1 hx
    exact ⟨v, hrestA v (List.mem_append_left _ hv), SubCell.self _ _⟩
  · -- a piece of the upper boundary cell
    rcases hhigh with ⟨c, t, rfl, -, -, hb⟩ | ⟨-, rfl, -⟩
    · exact ⟨c, hrestA c (List.mem_append_right _ List.mem_cons_self), boundary_sub hb x hx⟩
    · cases hx

theorem selectWithMass_between
    (h : selectWithMass maxDepth cells from_ to asc strict noSplit rev = some (cs, M, uLow, uHigh))
    {pre post : List VCell} {c : VCell} (hs : sortedOf asc cells = pre ++ c :: post)
    (h1 : from_ ≤ sumVal pre) (h2 : sumVal pre + c.val ≤ to) (h3 : 0 < c.val) :
    (c.depth, c.idx) ∈ cs := by
  obtain ⟨⟨accL, lowCells, restA, mLow, uLow0⟩, hl, hh⟩ := selectWithMass_some h
  obtain ⟨acc, tk, rest, hsc, -, rfl, -, hlow⟩ := lowStage_some hl
  obtain ⟨whole, rest2, hsc2, -, -, b, m, rfl, -⟩ := highStage_some hh
  -- the lower scan stops before `c`: the cells it takes whole are a prefix of `pre`
  obtain ⟨a, rfl, rfl⟩ : ∃ a, pre = tk ++ a ∧ rest = a ++ c :: post := by
    have := (scanWhole_split from_ c post pre 0).2
      ((Nat.zero_add _).symm ▸ Nat.lt_of_le_of_lt h1 (Nat.lt_add_of_pos_right h3))
    rwa [← hs, hsc] at this
  rw [sumVal_append] at h1 h2
  -- `c` is still there after the lower stage, behind some `a2`
  obtain ⟨a2, hr, hsum⟩ : ∃ a2, restA = a2 ++ c :: post ∧ accL + sumVal a2 = sumVal tk + sumVal a := by
    rcases hlow with ⟨x, hr, hlt, -, rfl, -⟩ | ⟨-, rfl, rfl, -⟩
    · -- the boundary cell is consumed; it is not `c`
      cases a with
      | nil => exact absurd hlt (Nat.not_lt_of_le h1)
      | cons x a' => cases hr; exact ⟨a', rfl, by rw [sumVal_cons, Nat.add_assoc]⟩
    · exact ⟨a, rfl, rfl⟩
  -- so the upper scan takes it
  have hc := (scanWhole_split to c post a2 accL).1 (hsum ▸ h2)
  rw [← hr, hsc2] at hc
  exact List.mem_append_left _ (List.mem_append_right _ (List.mem_map.2 ⟨c, hc, rfl⟩))

theorem sortStable_pairwise (R : VCell → VCell → Prop) (after : VCell → VCell → Bool)
    (h1 : ∀ x y, after y x = true → R x y) (h2 : ∀ x y, ¬ after y x = true → R y x)
    (tr : ∀ a b c, R a b → R b c → R a c) (l : List VCell) : (sortStable after l).Pairwise R := by
  rw [sortStable_eq]
  exact (isSort_foldr _).pairwise (insertStable_isInsert after) h1 h2 tr _

theorem sortedOf_ordered (asc : Bool) (cells : List VCell) :
    (asc = true → (sortedOf asc cells).Pairwise (fun a b => a.dens ≤ b.dens)) ∧
    (asc = false → (sortedOf asc cells).Pairwise (fun a b => b.dens ≤ a.dens)) := by
  unfold sortedOf
  refine ⟨fun ha => ?_, fun ha => ?_⟩
  · rw [if_pos ha]
    exact sortStable_pairwise (fun a b => a.dens ≤ b.dens) _ (fun _ _ h => Nat.le_of_lt (of_decide_eq_true h))
      (fun _ _ h => Nat.le_of_not_lt fun k => h (decide_eq_true k)) (fun _ _ _ => Nat.le_trans) _
  · rw [ha, if_neg Bool.false_ne_true]
    exact sortStable_pairwise (fun a b => b.dens ≤ a.dens) _ (fun _ _ h => Nat.le_of_lt (of_decide_eq_true h))
      (fun _ _ h => Nat.le_of_not_lt fun k => h (decide_eq_true k)) (fun _ _ _ h h' => Nat.le_trans h' h) _

end Moc
