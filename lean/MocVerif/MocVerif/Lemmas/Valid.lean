/-
  `Valid` (bounded + cell-aligned) is a property of the covered SET for canonical lists, hence it is
  preserved by every operator that is proved to compute a Boolean combination of sets.
-/
import MocVerif.Lemmas.Canon
import MocVerif.Lemmas.Shift

namespace Moc

/-- The covered set is a union of whole cells of size `c`. -/
def CellClosed (c : Nat) (l : List Rng) : Prop := ∀ x y, x / c = y / c → (mem x l → mem y l)

theorem mem_aligned_iff {c : Nat} (hc : 0 < c) {a b : Nat} (ha : c ∣ a) (hb : c ∣ b) (x : Nat) :
    a ≤ x ∧ x < b ↔ a / c ≤ x / c ∧ x / c < b / c :=
  and_congr (al_le_iff hc ha x) (al_lt_iff hc hb x)

theorem cellClosed_of_aligned (c : Nat) (hc : 0 < c) (l : List Rng) (ha : Aligned c l) : CellClosed c l := by
  intro x y hxy hx
  rw [mem_iff_exists] at hx ⊢
  obtain ⟨r, hr, h⟩ := hx
  refine ⟨r, hr, ?_⟩
  rwa [mem_aligned_iff hc (ha r hr).1 (ha r hr).2, ← hxy, ← mem_aligned_iff hc (ha r hr).1 (ha r hr).2]

theorem pred_div_eq_of_not_dvd (c n : Nat) (hn : 0 < n) (h : ¬ c ∣ n) : (n - 1) / c = n / c := by
  obtain ⟨m, rfl⟩ : ∃ m, n = m + 1 := ⟨n - 1, by omega⟩
  rw [Nat.succ_div]
  simp [h]

theorem CellClosed.dvd_of_boundary {c n : Nat} {l : List Rng} (hcl : CellClosed c l) (hn : 0 < n)
    (h : ¬ (mem (n - 1) l ↔ mem n l)) : c ∣ n :=
  Classical.byContradiction fun hnd =>
    have e := pred_div_eq_of_not_dvd c n hn hnd
    h ⟨hcl _ _ e, hcl _ _ e.symm⟩

theorem aligned_of_cellClosed (c : Nat) (l : List Rng) : ∀ lo, CanonFrom lo l → CellClosed c l → Aligned c l := by
  intro lo hcan hcl r hr
  -- `r.1` and `r.2 - 1` are covered, `r.1 - 1` and `r.2` are not: the set starts at `r.1` and stops at `r.2`
  obtain ⟨-, hne, g2, g1⟩ := canon_gap l lo hcan r hr
  have in1 : mem r.1 l := (mem_iff_exists _ _).2 ⟨r, hr, Nat.le_refl _, hne⟩
  refine ⟨?_, hcl.dvd_of_boundary (Nat.zero_lt_of_lt hne) fun h => g2 (h.1 (mem_pred_end hr hne))⟩
  by_cases h0 : r.1 = 0
  · exact h0 ▸ Nat.dvd_zero c
  · exact hcl.dvd_of_boundary (Nat.pos_of_ne_zero h0) fun h => g1 (Nat.pos_of_ne_zero h0) (h.2 in1)

theorem aligned_iff_cellClosed (c : Nat) (hc : 0 < c) (l : List Rng) (hcan : Canon l) :
    Aligned c l ↔ CellClosed c l :=
  ⟨cellClosed_of_aligned c hc l, aligned_of_cellClosed c l 0 hcan⟩

/-- How every binary operator preserves `Valid`; operands of different depths are first brought to the cell size of
    the deeper one (`valid_binary`). -/
theorem valid_of_sem (c ub : Nat) (hc : 0 < c) (a b o : List Rng) (f : Prop → Prop → Prop)
    (hf : ¬ f False False) (ho : Canon o)
    (hba : BoundedBy ub a) (hbb : BoundedBy ub b) (haa : Aligned c a) (hab : Aligned c b)
    (hsem : ∀ x, mem x o ↔ f (mem x a) (mem x b)) :
    BoundedBy ub o ∧ Aligned c o := by
  constructor
  · refine (boundedBy_iff ub o 0 ho).2 fun x hx => ?_
    rw [hsem] at hx
    by_cases h1 : mem x a
    · exact hba.lt h1
    · by_cases h2 : mem x b
      · exact hbb.lt h2
      · exact absurd (by simpa [h1, h2] using hx) hf
  · rw [aligned_iff_cellClosed c hc o ho]
    intro x y hxy hx
    have ca := cellClosed_of_aligned c hc a haa
    have cb := cellClosed_of_aligned c hc b hab
    rw [hsem] at hx ⊢
    rwa [← propext ⟨ca x y hxy, ca y x hxy.symm⟩, ← propext ⟨cb x y hxy, cb y x hxy.symm⟩]

theorem aligned_of_dvd {c c' : Nat} (h : c' ∣ c) {l : List Rng} (ha : Aligned c l) : Aligned c' l :=
  fun r hr => ⟨Nat.dvd_trans h (ha r hr).1, Nat.dvd_trans h (ha r hr).2⟩

namespace Qty

theorem cellSize_eq_pow (q : Qty) (w d : Nat) : q.cellSize w d = 2 ^ q.shiftFromMax w d := by
  simp [cellSize, Nat.shiftLeft_eq]

theorem cellSize_pos (q : Qty) (w d : Nat) : 0 < q.cellSize w d := by
  rw [cellSize_eq_pow]; exact Nat.two_pow_pos _

theorem nCellsMax_eq (q : Qty) (w : Nat) : q.nCellsMax w = q.nd0 * 2 ^ (q.dim * q.maxDepth w) := by
  simp [nCellsMax, Nat.shiftLeft_eq]

theorem cellSize_dvd (q : Qty) (w : Nat) {d d' : Nat} (h : d ≤ d') : q.cellSize w d' ∣ q.cellSize w d := by
  rw [cellSize_eq_pow, cellSize_eq_pow]
  exact Nat.pow_dvd_pow 2 (Nat.mul_le_mul_left _ (Nat.sub_le_sub_left h _))

theorem cellSize_dvd_nCellsMax (q : Qty) (w d : Nat) : q.cellSize w d ∣ q.nCellsMax w := by
  rw [cellSize_eq_pow, nCellsMax_eq]
  exact Nat.dvd_trans (Nat.pow_dvd_pow 2 (Nat.mul_le_mul_left _ (Nat.sub_le _ _))) (Nat.dvd_mul_left _ _)

theorem lt_nCellsMax_of_cell (q : Qty) (w d : Nat) {x y : Nat} (h : x / q.cellSize w d = y / q.cellSize w d)
    (hy : y < q.nCellsMax w) : x < q.nCellsMax w := by
  obtain ⟨k, hk⟩ := q.cellSize_dvd_nCellsMax w d
  have hpos := q.cellSize_pos w d
  rw [hk, Nat.mul_comm] at hy ⊢
  exact (Nat.div_lt_iff_lt_mul hpos).1 (h ▸ (Nat.div_lt_iff_lt_mul hpos).2 hy)

end Qty

theorem validB_iff (q : Qty) (w d : Nat) (rs : List Rng) : validB q w d rs = true ↔ Valid q w d rs := by
  unfold validB Valid
  rw [Bool.and_eq_true, Bool.and_eq_true, canonB_iff]
  have h1 : boundedByB (q.nCellsMax w) rs = true ↔ BoundedBy (q.nCellsMax w) rs := by
    simp [boundedByB, BoundedBy, List.all_eq_true]
  have h2 : alignedB (q.cellSize w d) rs = true ↔ Aligned (q.cellSize w d) rs := by
    simp [alignedB, Aligned, List.all_eq_true, Nat.dvd_iff_mod_eq_zero]
  rw [h1, h2, and_assoc]

theorem Valid.of_set {q : Qty} {w d : Nat} {o : List Rng} (ho : Canon o)
    (hb : ∀ x, mem x o → x < q.nCellsMax w) (hc : CellClosed (q.cellSize w d) o) : Valid q w d o :=
  ⟨ho, (boundedBy_iff _ _ 0 ho).2 hb, (aligned_iff_cellClosed _ (q.cellSize_pos w d) _ ho).2 hc⟩

/-- The cell size is spelt `2 ^ q.shiftFromMax w d`, as in the specifications of `degraded` and of the builders. -/
theorem Valid.of_cells {q : Qty} {w d : Nat} {a o : List Rng} (ho : Canon o) (ha : BoundedBy (q.nCellsMax w) a)
    (hmem : ∀ x, mem x o ↔ ∃ y, mem y a ∧ x / 2 ^ q.shiftFromMax w d = y / 2 ^ q.shiftFromMax w d) :
    Valid q w d o := by
  rw [← q.cellSize_eq_pow] at hmem
  refine .of_set ho (fun x hx => ?_) (fun x y hxy hx => ?_)
  · obtain ⟨y, hy, e⟩ := (hmem x).1 hx
    exact q.lt_nCellsMax_of_cell w d e (ha.lt hy)
  · obtain ⟨z, hz, e⟩ := (hmem x).1 hx
    exact (hmem y).2 ⟨z, hz, hxy ▸ e⟩

theorem Valid.deeper {q : Qty} {w d d' : Nat} {l : List Rng} (h : Valid q w d l) (hd : d ≤ d') :
    Valid q w d' l :=
  ⟨h.1, h.2.1, aligned_of_dvd (q.cellSize_dvd w hd) h.2.2⟩

theorem Valid.aligned {q : Qty} {w d : Nat} {l : List Rng} (h : Valid q w d l) :
    Aligned (2 ^ q.shiftFromMax w d) l :=
  q.cellSize_eq_pow w d ▸ h.2.2

end Moc
