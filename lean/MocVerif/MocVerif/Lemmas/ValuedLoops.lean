/-
  Loop lemmas of the cumulative selection (C20): the accumulation loops and the sub-cell counting loop.
-/
import MocVerif.Model.Valued

namespace Moc.C20

def sumVal (l : List VCell) : Nat := (l.map (·.val)).sum

theorem sumVal_nil : sumVal [] = 0 := rfl

theorem sumVal_cons (c : VCell) (t : List VCell) : sumVal (c :: t) = c.val + sumVal t := rfl

theorem sumVal_append (a b : List VCell) : sumVal (a ++ b) = sumVal a + sumVal b := by
  simp only [sumVal, List.map_append, List.sum_append]

theorem scanWhole_spec (thr : Nat) (l : List VCell) : ∀ acc,
    ∃ whole rest, scanWhole thr acc l = (acc + sumVal whole, whole, rest) ∧ l = whole ++ rest ∧
      (acc ≤ thr → acc + sumVal whole ≤ thr) ∧ ∀ c t, rest = c :: t → thr < acc + sumVal whole + c.val := by
  intro acc
  fun_induction scanWhole thr acc l with
  | case1 => exact ⟨[], [], rfl, rfl, id, nofun⟩
  | case2 acc c t h a tk r x ih =>
    obtain ⟨w, r', hsc, e, h3, h4⟩ := ih
    cases x.symm.trans hsc
    rw [Nat.add_assoc] at h3 h4
    exact ⟨c :: tk, r, by rw [Nat.add_assoc]; rfl, congrArg (c :: ·) e, fun _ => h3 h, h4⟩
  | case3 acc c t h =>
    exact ⟨[], c :: t, rfl, rfl, id, fun c' t' he => by cases he; exact Nat.lt_of_not_le h⟩

theorem scanWhole_split (thr : Nat) (c : VCell) (post : List VCell) : ∀ (pre : List VCell) (acc : Nat),
    (acc + sumVal pre + c.val ≤ thr → c ∈ (scanWhole thr acc (pre ++ c :: post)).2.1) ∧
    (thr < acc + sumVal pre + c.val → ∃ a, pre = (scanWhole thr acc (pre ++ c :: post)).2.1 ++ a ∧
      (scanWhole thr acc (pre ++ c :: post)).2.2 = a ++ c :: post) := by
  intro pre
  induction pre with
  | nil =>
    intro acc
    simp only [List.nil_append, scanWhole, sumVal_nil, Nat.add_zero]
    by_cases h : acc + c.val ≤ thr
    · rw [if_pos h]; exact ⟨fun _ => List.mem_cons_self, fun h' => absurd h (Nat.not_le_of_lt h')⟩
    · rw [if_neg h]; exact ⟨fun h' => absurd h' h, fun _ => ⟨[], rfl, rfl⟩⟩
  | cons x p ih =>
    intro acc
    simp only [List.cons_append, scanWhole, sumVal_cons, ← Nat.add_assoc]
    by_cases h : acc + x.val ≤ thr
    · rw [if_pos h]
      obtain ⟨i1, i2⟩ := ih (acc + x.val)
      refine ⟨fun h' => List.mem_cons_of_mem _ (i1 h'), fun h' => ?_⟩
      obtain ⟨a, e1, e2⟩ := i2 h'
      exact ⟨a, congrArg (x :: ·) e1, e2⟩
    · rw [if_neg h]
      exact ⟨fun h' => absurd (Nat.le_trans (Nat.le_add_right _ _) (Nat.le_trans (Nat.le_add_right _ _) h')) h,
        fun _ => ⟨x :: p, rfl, rfl⟩⟩

theorem takeSub_eq (sub : Nat) : ∀ fuel k t, ∃ n t', takeSub sub fuel k t = (k + n, t') ∧ n ≤ fuel ∧
    t = n * sub + t' ∧ (n < fuel → t' < sub) := by
  intro fuel k t
  fun_induction takeSub sub fuel k t with
  | case1 k t => exact ⟨0, t, rfl, Nat.le_refl _, by rw [Nat.zero_mul, Nat.zero_add], nofun⟩
  | case2 fuel k t h ih =>
    obtain ⟨n, t', hr, h1, h3, h4⟩ := ih
    refine ⟨n + 1, t', by rw [hr, Nat.add_assoc, Nat.add_comm 1], Nat.succ_le_succ h1, ?_,
      fun hlt => h4 (Nat.lt_of_succ_lt_succ hlt)⟩
    rw [Nat.succ_mul, Nat.add_right_comm, ← h3, Nat.sub_add_cancel h]
  | case3 fuel k t h =>
    exact ⟨0, t, rfl, Nat.zero_le _, by rw [Nat.zero_mul, Nat.zero_add], fun _ => Nat.lt_of_not_le h⟩

end Moc.C20
