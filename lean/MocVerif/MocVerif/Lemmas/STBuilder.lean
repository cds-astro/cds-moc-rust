/-
  C09 — from a buffer of observations to elements (`Model/STBuilder.lean`): grouping by time cell keeps exactly the
  observations, one group per time cell in increasing order; merging runs of time cells with the same space cells
  keeps what the groups hold and leaves consecutive elements with different space cells.
-/
import MocVerif.Model.STBuilder
import MocVerif.Lemmas.Graph
import MocVerif.Lemmas.ListFacts

namespace Moc.STBuilder
open Moc.Graph

def InGroups (gs : List (Nat × List Nat)) (t s : Nat) : Prop := ∃ g ∈ gs, t = g.1 ∧ s ∈ g.2

theorem inGroups_nil (t s : Nat) : InGroups [] t s ↔ False := exists_mem_nil _
theorem inGroups_cons (g : Nat × List Nat) (gs : List (Nat × List Nat)) (t s : Nat) :
    InGroups (g :: gs) t s ↔ (t = g.1 ∧ s ∈ g.2) ∨ InGroups gs t s := exists_mem_cons _ g gs

theorem inGroups_addObs (t0 s0 t s : Nat) (gs : List (Nat × List Nat)) :
    InGroups (addObs t0 s0 gs) t s ↔ (t = t0 ∧ s = s0) ∨ InGroups gs t s := by
  fun_induction addObs t0 s0 gs with
  | case1 => rw [inGroups_cons, List.mem_singleton]
  | case2 => rw [inGroups_cons, List.mem_singleton]
  | case3 S rest => rw [inGroups_cons, inGroups_cons, mem_ins, and_or_left, or_assoc]
  | case4 t' S rest _ _ ih => rw [inGroups_cons, inGroups_cons, ih, or_left_comm]

theorem inGroups_groups (buf : List (Nat × Nat)) (t s : Nat) : InGroups (groups buf) t s ↔ (t, s) ∈ buf := by
  induction buf with
  | nil => exact iff_of_false (inGroups_nil t s).1 List.not_mem_nil
  | cons o rest ih =>
    show InGroups (addObs o.1 o.2 (groups rest)) t s ↔ _
    rw [inGroups_addObs, ih, List.mem_cons, Prod.ext_iff]

def InElems (es : List (List Nat × List Nat)) (t s : Nat) : Prop := ∃ e ∈ es, t ∈ e.1 ∧ s ∈ e.2

theorem inElems_nil (t s : Nat) : InElems [] t s ↔ False := exists_mem_nil _
theorem inElems_cons (e : List Nat × List Nat) (es : List (List Nat × List Nat)) (t s : Nat) :
    InElems (e :: es) t s ↔ (t ∈ e.1 ∧ s ∈ e.2) ∨ InElems es t s := exists_mem_cons _ e es

theorem inElems_mergeRuns (gs : List (Nat × List Nat)) (t s : Nat) : InElems (mergeRuns gs) t s ↔ InGroups gs t s := by
  fun_induction mergeRuns gs with
  | case1 => exact (inElems_nil t s).trans (inGroups_nil t s).symm
  | case2 t0 rest ts S' more hm ih =>
    rw [hm] at ih
    rw [inGroups_cons, ← ih, inElems_cons, inElems_cons, List.mem_cons, or_and_right, or_assoc]
  | case3 t0 S rest ts S' more hm _ ih => rw [inGroups_cons, ← ih, hm, inElems_cons, List.mem_singleton]
  | case4 t0 S rest hm ih => rw [inGroups_cons, ← ih, hm, inElems_cons, List.mem_singleton]

/-- Strictly increasing time cells.  Not `Moc.SortedFrom` of `Lemmas/SetOps`, which is about ranges and lets two
    starts be equal. -/
def SortedFrom : Nat → List (Nat × List Nat) → Prop
  | _, [] => True
  | lo, g :: t => lo ≤ g.1 ∧ SortedFrom (g.1 + 1) t

theorem SortedFrom.mono {lo lo' : Nat} : ∀ {gs : List (Nat × List Nat)}, SortedFrom lo gs → lo' ≤ lo → SortedFrom lo' gs := by
  intro gs h hle
  cases gs with
  | nil => trivial
  | cons g t => exact ⟨Nat.le_trans hle h.1, h.2⟩

theorem sorted_addObs (t0 s0 : Nat) (gs : List (Nat × List Nat)) (lo : Nat) (hs : SortedFrom lo gs) (hlo : lo ≤ t0) :
    SortedFrom lo (addObs t0 s0 gs) := by
  fun_induction addObs t0 s0 gs generalizing lo with
  | case1 => exact ⟨hlo, trivial⟩
  | case2 t' S rest h => exact ⟨hlo, h, hs.2⟩
  | case3 S rest => exact hs
  | case4 t' S rest h1 h2 ih => exact ⟨hs.1, ih (t' + 1) hs.2 (Nat.lt_of_le_of_ne (Nat.le_of_not_lt h1) (Ne.symm h2))⟩

theorem groups_sorted (buf : List (Nat × Nat)) : SortedFrom 0 (groups buf) := by
  induction buf with
  | nil => trivial
  | cons o rest ih => exact sorted_addObs o.1 o.2 _ 0 ih (Nat.zero_le _)

def Alternating : List (List Nat × List Nat) → Prop
  | a :: b :: t => a.2 ≠ b.2 ∧ Alternating (b :: t)
  | _ => True

theorem mergeRuns_alternating (gs : List (Nat × List Nat)) : Alternating (mergeRuns gs) := by
  fun_induction mergeRuns gs with
  | case1 => trivial
  | case2 t0 rest ts S' more hm ih =>
    -- the time cell joins the first element, whose coverage stays
    rw [hm] at ih
    cases more <;> exact ih
  | case3 t0 S rest ts S' more hm hS ih => exact ⟨hS, hm ▸ ih⟩
  | case4 => trivial

end Moc.STBuilder
