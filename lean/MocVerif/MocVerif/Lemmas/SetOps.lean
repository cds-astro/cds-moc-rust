/-
  The eager set operations of `Model/Ranges.lean` on canonical lists: each returns a canonical list that covers the
  set it should; the prologues and fast paths of `intersection` and `union` change nothing.
-/
import MocVerif.Lemmas.ViaStart
import MocVerif.Lemmas.InsertSort

namespace Moc

theorem consumeWhileEndLe_spec (to : Nat) (t : List Rng) : ∀ a, CanonFrom a t →
    CanonFrom a (consumeWhileEndLe to t) ∧
    (∀ x, mem x (consumeWhileEndLe to t) → mem x t) ∧
    (∀ x, mem x t → x < to ∨ mem x (consumeWhileEndLe to t)) := by
  induction t with
  | nil => intro a _; simp [consumeWhileEndLe]
  | cons c t ih =>
    intro a h
    simp only [consumeWhileEndLe]
    split
    · exact ⟨h, fun x hx => hx, fun x hx => Or.inr hx⟩
    · next hle =>
      have := ih (c.2 + 1) h.2.2
      refine ⟨this.1.mono (Nat.le_succ_of_le (Nat.le_trans h.1 (Nat.le_of_lt h.2.1))),
        fun x hx => Or.inr (this.2.1 x hx), fun x hx => ?_⟩
      rcases hx with hx | hx
      · exact Or.inl (Nat.lt_of_lt_of_le hx.2 (Nat.le_of_not_gt hle))
      · exact this.2.2 x hx

/-- One case of the correctness proof of a two-pointer loop over `l :: lt` and `r :: rt`: `ih` taken at the given lower
    bounds settles the canonical form; the covered set is then interval arithmetic on the four head bounds, the tails
    lying beyond `l.2` and `r.2` (`CanonFrom.lb`).  Where the loop skips ranges, `consumeWhileEndLe_spec` is put in the
    context before the call.  The hypotheses that play no part are cleared first: `grind` pays for each of them. -/
macro "loop_step" hl:ident hr:ident ih:ident bounds:term:max* : tactic => `(tactic| (
  obtain ⟨hl1, hl2, hl3⟩ := $hl
  obtain ⟨hr1, hr2, hr3⟩ := $hr
  obtain ⟨hcan, hmem⟩ := $ih $bounds* (by canon_tac) (by canon_tac)
  refine ⟨by canon_tac, fun x => ?_⟩
  have lbl := @CanonFrom.lb _ _ hl3 x
  have lbr := @CanonFrom.lb _ _ hr3 x
  simp only [mem_cons, hmem]
  clear hmem hcan hl3 hr3 $ih
  grind))

section
variable {o lt rt : List Rng} {l r : Rng}

/-- `o` is a correct result of the intersection of `l` and `r`.  The cases of `interLoop_spec` are built from the moves
    below; a case that is the mirror image of another one goes through `symm`. -/
def InterSpec (o l r : List Rng) : Prop := ∀ a b, CanonFrom a l → CanonFrom b r →
  CanonFrom (max a b) o ∧ ∀ x, mem x o ↔ mem x l ∧ mem x r

theorem InterSpec.symm {l r : List Rng} (h : InterSpec o l r) : InterSpec o r l := fun a b hr hl =>
  ⟨Nat.max_comm b a ▸ (h b a hl hr).1, fun x => ((h b a hl hr).2 x).trans and_comm⟩

/-- A head that ends before the other one starts is skipped. -/
theorem InterSpec.skip (h : InterSpec o lt (r :: rt)) (h1 : l.2 ≤ r.1) : InterSpec o (l :: lt) (r :: rt) := by
  intro a b hl hr; loop_step hl hr h (l.2 + 1) b

/-- The overlap of the heads is emitted; the head that ends first goes, -/
theorem InterSpec.part (h : InterSpec o lt (r :: rt)) (h1 : ¬ l.2 ≤ r.1) (h2 : l.2 < r.2) :
    InterSpec ((max l.1 r.1, l.2) :: o) (l :: lt) (r :: rt) := by
  intro a b hl hr; loop_step hl hr h (l.2 + 1) b

/-- or both if they end together. -/
theorem InterSpec.both (h : InterSpec o lt rt) (h1 : ¬ l.2 ≤ r.1) (h2 : ¬ r.2 ≤ l.1) (h3 : ¬ l.2 < r.2)
    (h4 : ¬ r.2 < l.2) : InterSpec ((max l.1 r.1, l.2) :: o) (l :: lt) (r :: rt) := by
  intro a b hl hr; loop_step hl hr h (l.2 + 1) (r.2 + 1)

/-- `o` is a correct result of the union of `l` and `r`. -/
def UnionSpec (o l r : List Rng) : Prop := ∀ a b, CanonFrom a l → CanonFrom b r →
  CanonFrom (min a b) o ∧ ∀ x, mem x o ↔ mem x l ∨ mem x r

theorem UnionSpec.symm {l r : List Rng} (h : UnionSpec o l r) : UnionSpec o r l := fun a b hr hl =>
  ⟨Nat.min_comm b a ▸ (h b a hl hr).1, fun x => ((h b a hl hr).2 x).trans or_comm⟩

/-- A head that ends before the other one starts is emitted.  Both operands are taken from `l.2 + 1` on: the rest of the
    result starts at the smaller of the two bounds, and has to start beyond `l`. -/
theorem UnionSpec.before (h : UnionSpec o lt (r :: rt)) (h1 : l.2 < r.1) : UnionSpec (l :: o) (l :: lt) (r :: rt) := by
  intro a b hl hr; loop_step hl hr h (l.2 + 1) (l.2 + 1)

/-- Heads that meet: the one that ends last is widened to their union, the other operand skipped up to that end. -/
theorem UnionSpec.widen (h : UnionSpec o (consumeWhileEndLe r.2 lt) ((min l.1 r.1, r.2) :: rt)) (h1 : ¬ l.2 < r.1)
    (h2 : ¬ r.2 < l.1) (h3 : l.2 ≤ r.2) : UnionSpec o (l :: lt) (r :: rt) := by
  intro a b hl hr
  have ⟨hk, c1, c2⟩ := consumeWhileEndLe_spec r.2 lt (l.2 + 1) hl.tail
  loop_step hl hr h (l.2 + 1) (min l.1 r.1)

end

theorem interLoop_spec (l r : List Rng) : ∀ a b, CanonFrom a l → CanonFrom b r →
    CanonFrom (max a b) (interLoop l r) ∧ ∀ x, mem x (interLoop l r) ↔ mem x l ∧ mem x r := by
  show InterSpec (interLoop l r) l r
  fun_induction interLoop l r with
  | case1 r => intro a b _ _; simp
  | case2 l lt => intro a b _ _; simp
  | case3 l lt r rt h ih => exact ih.skip h
  | case4 l lt r rt h1 h2 ih => exact (ih.symm.skip h2).symm
  | case5 l lt r rt h1 h2 from_ h3 ih => exact ih.part h1 h3
  | case6 l lt r rt h1 h2 from_ h3 h4 ih => exact (Nat.max_comm .. ▸ ih.symm.part h2 h4).symm
  | case7 l lt r rt h1 h2 from_ h3 h4 ih => exact ih.both h1 h2 h3 h4

theorem unionLoop_spec (l r : List Rng) : ∀ a b, CanonFrom a l → CanonFrom b r →
    CanonFrom (min a b) (unionLoop l r) ∧ ∀ x, mem x (unionLoop l r) ↔ mem x l ∨ mem x r := by
  show UnionSpec (unionLoop l r) l r
  fun_induction unionLoop l r with
  | case1 r => intro a b _ hr; simp; exact hr.mono (Nat.min_le_right a b)
  | case2 l lt => intro a b hl _; simp; exact hl.mono (Nat.min_le_left a b)
  | case3 l lt r rt h ih => exact ih.before h
  | case4 l lt r rt h1 h2 ih => exact (ih.symm.before h2).symm
  | case5 l lt r rt h1 h2 h3 ih => exact ih.widen h1 h2 h3
  | case6 l lt r rt h1 h2 h3 ih =>
    exact (UnionSpec.widen (Nat.min_comm .. ▸ ih.symm) h2 h1 (Nat.le_of_not_le h3)).symm

theorem complFrom_spec (ub : Nat) (t : List Rng) : ∀ last, CanonFrom (last + 1) t → BoundedBy ub t →
    CanonFrom last (complFrom last ub t) ∧
    ∀ x, mem x (complFrom last ub t) ↔ last ≤ x ∧ x < ub ∧ ¬ mem x t := by
  induction t with
  | nil =>
    intro last _ _
    simp only [complFrom]
    split <;> simp <;> omega
  | cons r t ih =>
    intro last ⟨h1, h2, h3⟩ hb
    have hr : r.2 ≤ ub := hb r (List.mem_cons_self ..)
    obtain ⟨hcan, hmem⟩ := ih r.2 h3 fun s hs => hb s (List.mem_cons_of_mem _ hs)
    refine ⟨⟨Nat.le_refl _, h1, hcan.mono h2⟩, fun x => ?_⟩
    have lb := @CanonFrom.lb _ _ h3 x
    simp only [complFrom, mem_cons, hmem]
    clear hmem hcan ih hb h3
    grind

theorem complement_spec (ub : Nat) (l : List Rng) (hub : 0 < ub) (hc : Canon l) (hb : BoundedBy ub l) :
    Canon (complement ub l) ∧ ∀ x, mem x (complement ub l) ↔ x < ub ∧ ¬ mem x l := by
  cases l with
  | nil => simp [complement, Canon]; exact hub
  | cons r t =>
    obtain ⟨h1, h2, h3⟩ := hc
    have hb' : BoundedBy ub t := fun s hs => hb s (List.mem_cons_of_mem _ hs)
    simp only [complement]
    split
    · have := complFrom_spec ub t r.2 h3 hb'
      refine ⟨this.1.mono (Nat.zero_le _), fun x => ?_⟩
      rw [this.2]; simp; grind
    · rename_i h0
      have := complFrom_spec ub (r :: t) 0 ⟨Nat.pos_of_ne_zero h0, h2, h3⟩ hb
      refine ⟨this.1, fun x => ?_⟩
      rw [this.2]; simp

/-! ### sort + fuse = `Ranges::new_from` -/

def SortedFrom (lo : Nat) : List Rng → Prop
  | [] => True
  | r :: t => lo ≤ r.1 ∧ r.1 < r.2 ∧ SortedFrom r.1 t

theorem SortedFrom.mono {lo lo' : Nat} {l : List Rng} (h : SortedFrom lo l) (hle : lo' ≤ lo) :
    SortedFrom lo' l := by
  cases l with
  | nil => trivial
  | cons r t => exact ⟨Nat.le_trans hle h.1, h.2.1, h.2.2⟩

theorem CanonFrom.map_sorted {φ : Nat → Nat} (hφ : ∀ a b, a ≤ b → φ a ≤ φ b) {g : Rng → Rng}
    (h1 : ∀ r, (g r).1 = φ r.1) (h2 : ∀ r, r.1 < r.2 → (g r).1 < (g r).2) :
    ∀ {lo : Nat} {l : List Rng}, CanonFrom lo l → SortedFrom (φ lo) (l.map g)
  | _, [], _ => trivial
  | _, r :: _, ⟨a, b, c⟩ =>
    ⟨h1 r ▸ hφ _ _ a, h2 r b, (map_sorted hφ h1 h2 c).mono (h1 r ▸ hφ _ _ (Nat.le_succ_of_le (Nat.le_of_lt b)))⟩

theorem mergeOvFrom_spec (t : List Rng) : ∀ cur : Rng, cur.1 < cur.2 → SortedFrom cur.1 t →
    CanonFrom cur.1 (mergeOvFrom cur t) ∧
    ∀ x, mem x (mergeOvFrom cur t) ↔ (cur.1 ≤ x ∧ x < cur.2) ∨ mem x t := by
  induction t with
  | nil => intro cur h _; exact ⟨⟨Nat.le_refl _, h, trivial⟩, fun x => Iff.rfl⟩
  | cons r t ih =>
    intro cur hcur ⟨h1, h2, h3⟩
    simp only [mergeOvFrom]
    split
    · rename_i hle
      obtain ⟨hcan, hmem⟩ := ih (cur.1, max r.2 cur.2) (Nat.lt_of_lt_of_le hcur (Nat.le_max_right ..)) (h3.mono h1)
      refine ⟨hcan, fun x => ?_⟩
      simp only [mem_cons, hmem]
      clear hmem hcan ih h3
      grind
    · rename_i hgt
      obtain ⟨hcan, hmem⟩ := ih r h2 h3
      exact ⟨⟨Nat.le_refl _, hcur, hcan.mono (Nat.lt_of_not_le hgt)⟩, fun x => by simp only [mem_cons, hmem]⟩

theorem mergeOverlapping_spec (l : List Rng) (hs : SortedFrom 0 l) :
    Canon (mergeOverlapping l) ∧ ∀ x, mem x (mergeOverlapping l) ↔ mem x l := by
  cases l with
  | nil => simp [mergeOverlapping, Canon]
  | cons r t =>
    have := mergeOvFrom_spec t r hs.2.1 hs.2.2
    exact ⟨this.1.mono (Nat.zero_le _), fun x => by simp [mergeOverlapping, this.2]⟩

theorem SortedFrom.of_pairwise {l : List Rng} : ∀ {lo : Nat}, l.Pairwise (fun a b => a.1 ≤ b.1) →
    (∀ r ∈ l, lo ≤ r.1 ∧ r.1 < r.2) → SortedFrom lo l := by
  induction l with
  | nil => exact fun _ _ => trivial
  | cons r t ih =>
    intro lo hp h
    have ⟨h1, h2⟩ := h r List.mem_cons_self
    exact ⟨h1, h2, ih (List.pairwise_cons.1 hp).2 fun s hs =>
      ⟨(List.pairwise_cons.1 hp).1 s hs, (h s (List.mem_cons_of_mem _ hs)).2⟩⟩

theorem insertByStart_isInsert : IsInsert (fun r s : Rng => r.1 ≤ s.1) insertByStart := ⟨fun _ => rfl, fun _ _ _ => rfl⟩

theorem sortByStart_isSort : IsSort insertByStart sortByStart := ⟨rfl, fun _ _ => rfl⟩

theorem sortByStart_spec (l : List Rng) (hne : ∀ r ∈ l, r.1 < r.2) :
    SortedFrom 0 (sortByStart l) ∧ ∀ x, mem x (sortByStart l) ↔ mem x l :=
  have p := sortByStart_isSort.perm insertByStart_isInsert l
  ⟨.of_pairwise (sortByStart_isSort.pairwise insertByStart_isInsert (fun _ _ h => h) (fun _ _ h => Nat.le_of_not_le h)
    (fun _ _ _ => Nat.le_trans) l) fun r hr => ⟨Nat.zero_le _, hne r (p.mem_iff.1 hr)⟩, mem_of_perm p⟩

theorem newFrom_spec (l : List Rng) (hne : ∀ r ∈ l, r.1 < r.2) :
    Canon (newFrom l) ∧ ∀ x, mem x (newFrom l) ↔ mem x l := by
  have hs := sortByStart_spec l hne
  have hm := mergeOverlapping_spec _ hs.1
  exact ⟨hm.1, fun x => by rw [newFrom, hm.2, hs.2]⟩

theorem mem_filter_nonempty (x : Nat) (l : List Rng) :
    mem x (l.filter fun r => r.1 < r.2) ↔ mem x l := by
  simp only [mem_iff_exists, List.mem_filter, decide_eq_true_eq]
  exact ⟨fun ⟨r, hr, h⟩ => ⟨r, hr.1, h⟩, fun ⟨r, hr, h⟩ => ⟨r, ⟨hr, Nat.lt_of_le_of_lt h.1 h.2⟩, h⟩⟩

theorem newFrom_map_spec {α : Type} (f : α → Rng) (l : List α) (hne : ∀ a ∈ l, (f a).1 < (f a).2) :
    Canon (newFrom (l.map f)) ∧ ∀ x, mem x (newFrom (l.map f)) ↔ ∃ a ∈ l, (f a).1 ≤ x ∧ x < (f a).2 := by
  have sp := newFrom_spec (l.map f) (by
    intro r hr
    obtain ⟨a, ha, rfl⟩ := List.mem_map.1 hr
    exact hne a ha)
  exact ⟨sp.1, fun x => by rw [sp.2, mem_map_iff]⟩

theorem normalize_spec (l : List Rng) :
    Canon (normalize l) ∧ ∀ x, mem x (normalize l) ↔ mem x l := by
  have := newFrom_spec (l.filter fun r => r.1 < r.2) (by intro r hr; simpa using (List.mem_filter.1 hr).2)
  exact ⟨this.1, fun x => by rw [normalize, this.2, mem_filter_nonempty]⟩

theorem eq_normalize {a l : List Rng} (ha : Canon a) (h : ∀ x, mem x a ↔ mem x l) : a = normalize l :=
  Canon.eq_of_spec ⟨ha, h⟩ (normalize_spec l)

theorem normalize_congr {a b : List Rng} (h : ∀ x, mem x a ↔ mem x b) : normalize a = normalize b :=
  eq_normalize (normalize_spec a).1 fun x => ((normalize_spec a).2 x).trans (h x)

theorem normalize_perm {l l' : List Rng} (p : l.Perm l') : normalize l = normalize l' :=
  normalize_congr (mem_of_perm p)

/-- The quick-rejection test and the binary-search start of `BorrowedRanges::intersection`
    never change the result of the plain two-pointer loop. -/
theorem intersection_eq_interLoop (l r : List Rng) (hl : Canon l) (hr : Canon r) :
    intersection l r = interLoop l r := by
  rw [intersection_eq_viaStart, viaStart_eq skip_interLoop l r hl hr]

theorem intersection_spec (l r : List Rng) (hl : Canon l) (hr : Canon r) :
    Canon (intersection l r) ∧ ∀ x, mem x (intersection l r) ↔ mem x l ∧ mem x r := by
  rw [intersection_eq_interLoop l r hl hr]
  exact interLoop_spec l r 0 0 hl hr

theorem unionLoop_take_drop (r0 : Rng) (rt : List Rng) (l : List Rng) :
    l.take (endIdx r0.1 l) ++ unionLoop (l.drop (endIdx r0.1 l)) (r0 :: rt) = unionLoop l (r0 :: rt) := by
  induction l with
  | nil => simp [endIdx]
  | cons s t ih =>
    simp only [endIdx]
    split
    · rename_i h
      rw [Nat.add_comm, List.take_succ_cons, List.drop_succ_cons, List.cons_append, ih]
      conv => rhs; rw [unionLoop]
      simp [h]
    · simp

theorem unionLoop_nil_right (l : List Rng) : unionLoop l [] = l := by
  cases l <;> simp [unionLoop]

theorem unionLoop_eq_of_sem {l r o : List Rng} (hl : Canon l) (hr : Canon r) (ho : Canon o)
    (h : ∀ x, mem x o ↔ mem x l ∨ mem x r) : unionLoop l r = o :=
  Canon.eq_of_spec (unionLoop_spec l r 0 0 hl hr) ⟨ho, h⟩

theorem unionLoop_comm {l r : List Rng} (hl : Canon l) (hr : Canon r) : unionLoop l r = unionLoop r l :=
  have sp := unionLoop_spec r l 0 0 hr hl
  unionLoop_eq_of_sem hl hr sp.1 fun x => (sp.2 x).trans or_comm

/-- The fast paths of `BorrowedRanges::union` (empty operand, plain concatenation, prefix copy found
    by binary search) never change the result of the plain merge loop. -/
theorem union_eq_unionLoop (l r : List Rng) (hl : Canon l) (hr : Canon r) :
    union l r = unionLoop l r := by
  cases l with
  | nil => rw [unionLoop]; rfl
  | cons l0 lt =>
    cases r with
    | nil => exact (unionLoop_nil_right _).symm
    | cons r0 rt =>
      show (if lastEndD l0.2 lt < r0.1 then _ else if lastEndD r0.2 rt < l0.1 then _ else if l0.2 < r0.1 then _
        else if l0.1 > r0.2 then _ else _) = _
      by_cases h1 : lastEndD l0.2 lt < r0.1
      · -- all of `l` lies before `r`, with a gap: the concatenation is canonical
        rw [if_pos h1]
        exact (unionLoop_eq_of_sem hl hr (CanonFrom.append hl hr.from_head (Nat.zero_le _)
          fun x hx => by have := hl.ends_le.lt hx; omega) fun x => mem_append ..).symm
      rw [if_neg h1]
      by_cases h2 : lastEndD r0.2 rt < l0.1
      · rw [if_pos h2]
        exact (unionLoop_eq_of_sem hl hr (CanonFrom.append hr hl.from_head (Nat.zero_le _)
          fun x hx => by have := hr.ends_le.lt hx; omega) fun x => by rw [mem_append, or_comm]).symm
      rw [if_neg h2]
      by_cases h3 : l0.2 < r0.1
      · rw [if_pos h3]; exact unionLoop_take_drop r0 rt (l0 :: lt)
      rw [if_neg h3]
      by_cases h4 : l0.1 > r0.2
      · -- the mirror image of the case before
        rw [if_pos h4]
        show _ ++ unionLoop _ (List.drop _ _) = _
        rw [unionLoop_comm hl (hr.drop _), unionLoop_take_drop l0 lt (r0 :: rt), unionLoop_comm hr hl]
      · rw [if_neg h4]

theorem union_spec (l r : List Rng) (hl : Canon l) (hr : Canon r) :
    Canon (union l r) ∧ ∀ x, mem x (union l r) ↔ mem x l ∨ mem x r := by
  rw [union_eq_unionLoop l r hl hr]
  exact unionLoop_spec l r 0 0 hl hr

end Moc
