/-
  Behind C04: the hints (`size_hint`, `peek_last`) a lazy operator computes from those of its operands are consistent
  with what it yields, and the last range `or` and `xor` announce is exact (`Src.LastExact`) when those of the operands
  are.
-/
import MocVerif.Lemmas.LazyOps

namespace Moc

/-! Output sizes: every turn of a loop takes at least one range off its operands and yields at most one. -/

section
variable {o l r lt : List Rng} {x y : Rng}

/-- `l` and `r` together have room for `o`: it has no more ranges than they.  Only lengths count, so a head rewritten
    in place changes nothing.  The cases of the `*_length` lemmas are built from the moves below; the mirror image of a
    case goes through `symm`. -/
def Room (o l r : List Rng) : Prop := o.length ≤ l.length + r.length

theorem Room.symm (h : Room o l r) : Room o r l := Nat.le_trans h (Nat.le_of_eq (Nat.add_comm ..))

/-- A head goes and nothing comes out, -/
theorem Room.drop (h : Room o lt r) : Room o (x :: lt) r := Nat.le_trans h (Nat.add_le_add_right (Nat.le_succ _) _)

/-- or one range does. -/
theorem Room.out (h : Room o lt r) : Room (y :: o) (x :: lt) r :=
  Nat.le_trans (Nat.succ_le_succ h) (Nat.le_of_eq (Nat.succ_add ..).symm)

/-- The ranges that `consumeWhileEndLe` passes over are put back. -/
theorem Room.skip {k : Nat} (h : Room o (consumeWhileEndLe k lt) r) : Room o lt r :=
  Nat.le_trans h (Nat.add_le_add_right (consumeWhileEndLe_length_le ..) _)

/-- `and` yields one range less.  With a range of `r` set aside this is `Room`: `Room1 o l (x :: rt)` unfolds to
    `Room o l rt`. -/
def Room1 (o l r : List Rng) : Prop := o.length ≤ l.length + r.length - 1

theorem Room1.symm (h : Room1 o l r) : Room1 o r l :=
  Nat.le_trans h (Nat.le_of_eq (congrArg (· - 1) (Nat.add_comm ..)))

end

theorem interLoop_length (l r : List Rng) : (interLoop l r).length ≤ l.length + r.length - 1 := by
  show Room1 (interLoop l r) l r
  fun_induction interLoop l r
  case case1 | case2 => exact Nat.zero_le _
  case case3 ih => exact Room.drop ih
  case case4 ih => exact Room1.symm (Room.drop ih.symm)
  case case5 ih => exact Room.out ih
  case case6 ih => exact Room1.symm (Room.out ih.symm)
  case case7 ih => exact Room.out (Nat.le_trans ih (Nat.sub_le ..))

theorem unionLoop_length (l r : List Rng) : (unionLoop l r).length ≤ l.length + r.length := by
  show Room (unionLoop l r) l r
  fun_induction unionLoop l r
  case case1 => exact Nat.le_add_left ..
  case case2 => exact Nat.le_add_right ..
  case case3 ih => exact ih.out
  case case4 ih => exact ih.symm.out.symm
  case case5 ih => exact ih.skip.drop
  case case6 ih => exact ih.symm.skip.drop.symm

theorem xorLoop_length (l r : List Rng) : (xorLoop l r).length ≤ l.length + r.length := by
  show Room (xorLoop l r) l r
  fun_induction xorLoop l r
  case case1 => exact Nat.le_add_left ..
  case case2 => exact Nat.le_add_right ..
  case case3 ih | case10 ih => exact ih.drop
  case case4 ih | case13 ih => exact ih.symm.drop.symm
  case case5 ih | case11 ih | case12 ih => exact ih.out
  case case6 ih | case14 ih | case15 ih => exact ih.symm.out.symm
  case case7 ih => exact ih.drop.symm.drop.symm
  case case8 ih | case9 ih => exact ih.out.symm.drop.symm

theorem minusLoop_length (l r : List Rng) : (minusLoop l r).length ≤ l.length + r.length := by
  show Room (minusLoop l r) l r
  fun_induction minusLoop l r
  case case1 => exact Nat.zero_le _
  case case2 => exact Nat.le_add_right ..
  case case3 ih | case5 ih => exact ih.out
  case case4 ih => exact ih.symm.skip.drop.symm
  case case6 ih => exact ih.skip.drop
  case case7 ih => exact ih.symm.drop.symm
  case case8 ih => exact ih.symm.out.symm

theorem complFrom_length (last ub : Nat) (t : List Rng) :
    t.length ≤ (complFrom last ub t).length ∧ (complFrom last ub t).length ≤ t.length + 1 := by
  induction t generalizing last with
  | nil => simp only [complFrom]; split <;> simp
  | cons r t ih => simp only [complFrom, List.length_cons]; have := ih r.2; omega

theorem Src.afterNext_items (s : Src) : s.afterNext.items = s.items.tail := by
  unfold Src.afterNext; split <;> rfl

theorem Src.afterNext_last (s : Src) : s.afterNext.last = s.last := by
  unfold Src.afterNext; split <;> rfl

theorem Src.afterNext_ok (s : Src) (h : s.HintOkAll) : s.afterNext.HintOkAll := by
  obtain ⟨⟨h1, h2, h3⟩, hl⟩ := h
  have hlast : ∀ r, s.last = some r → r.1 < r.2 ∧ ∀ c ∈ s.items.tail, c.2 ≤ r.2 := fun r hr =>
    ⟨(h1 r hr).1, fun c hc => (h1 r hr).2 c (List.mem_of_mem_tail hc)⟩
  unfold Src.afterNext
  split
  · rename_i he
    exact ⟨⟨hlast, Nat.zero_le _, fun _ => nofun⟩, he ▸ trivial⟩
  · rename_i hd tl he
    rw [he] at hl
    exact ⟨⟨hlast, hl.1, hl.2.1⟩, hl.2.2⟩

/-- `if s.items.isEmpty then 0 else 1` is the `one s` of `OrRangeIter::size_hint`: the range `next()` took out, which
    the bounds announced for the tail do not count. -/
theorem Src.length_bounds_of_afterNext {s : Src} (h : s.HintOkAll) :
    (if s.items.isEmpty then 0 else 1) + s.afterNext.lo ≤ s.items.length ∧
    ∀ n, s.afterNext.hi = some n → s.items.length ≤ (if s.items.isEmpty then 0 else 1) + n := by
  obtain ⟨-, h1, h2⟩ := (s.afterNext_ok h).1
  rw [s.afterNext_items] at h1 h2
  have e : s.items.length = (if s.items.isEmpty then 0 else 1) + s.items.tail.length := by
    cases s.items <;> simp [Nat.add_comm]
  rw [e]
  exact ⟨Nat.add_le_add_left h1 _, fun n hn => Nat.add_le_add_left (h2 n hn) _⟩

theorem Src.length_le_of_afterNext_hi {s : Src} (h : s.HintOkAll) {n : Nat} (hn : s.afterNext.hi = some n) :
    s.items.length ≤ n + 1 := by
  have := (s.length_bounds_of_afterNext h).2 n hn
  split at this <;> omega

theorem Src.afterNexts_ok (k : Nat) (s : Src) (h : s.HintOkAll) :
    (s.afterNexts k).HintOkAll ∧ (s.afterNexts k).items = s.items.drop k := by
  induction k generalizing s with
  | zero => exact ⟨h, rfl⟩
  | succ k ih =>
    have := ih s.afterNext (s.afterNext_ok h)
    refine ⟨this.1, ?_⟩
    simp only [Src.afterNexts]
    rw [this.2, s.afterNext_items, List.drop_tail]

theorem orLast_spec {l r : Src} (hl : l.HintOk) (hr : r.HintOk) {q : Rng} (hq : orLast l r = some q) :
    ∃ r1 r2, l.last = some r1 ∧ r.last = some r2 ∧ q.1 < q.2 ∧ q.2 = max r1.2 r2.2 := by
  unfold orLast at hq
  split at hq
  · rename_i r1 r2 h1 h2
    have n1 := (hl.1 r1 h1).1
    have n2 := (hr.1 r2 h2).1
    refine ⟨r1, r2, h1, h2, ?_⟩
    split at hq
    · cases hq; exact ⟨n1, (Nat.max_eq_left (by omega)).symm⟩
    · split at hq
      · cases hq; exact ⟨n2, (Nat.max_eq_right (by omega)).symm⟩
      · cases hq; exact ⟨Nat.lt_of_le_of_lt (Nat.min_le_left ..) (Nat.lt_of_lt_of_le n1 (Nat.le_max_left ..)), rfl⟩
  · cases hq

theorem orLast_ok (l r : Src) (hl : l.HintOk) (hr : r.HintOk) (o : List Rng) (ho : Canon o)
    (hsem : ∀ x, mem x o → mem x l.items ∨ mem x r.items) :
    ∀ q, orLast l r = some q → q.1 < q.2 ∧ ∀ c ∈ o, c.2 ≤ q.2 := by
  intro q hq
  obtain ⟨r1, r2, h1, h2, hne, hend⟩ := orLast_spec hl hr hq
  refine ⟨hne, (boundedBy_iff q.2 o 0 ho).2 fun x hx => ?_⟩
  rw [hend]
  rcases hsem x hx with h | h
  · exact Nat.lt_of_lt_of_le (hl.lt_last h1 h) (Nat.le_max_left ..)
  · exact Nat.lt_of_lt_of_le (hr.lt_last h2 h) (Nat.le_max_right ..)

theorem xorLast_ok {l r : Src} {q : Rng} (h : xorLast l r = some q) :
    orLast l r = some q ∧ ∀ r1 r2, l.last = some r1 → r.last = some r2 → r1.2 ≠ r2.2 := by
  unfold xorLast at h
  split at h
  · rename_i r1 r2 h1 h2
    split at h
    · cases h
    · refine ⟨h, fun r1' r2' h1' h2' => ?_⟩
      cases h1.symm.trans h1'; cases h2.symm.trans h2'; assumption
  · cases h

theorem lastExact_of_orLast {l r : Src} (hl : l.HintOk) (hr : r.HintOk) {o : List Rng} (ho : Canon o)
    (hsub : ∀ x, mem x o → mem x l.items ∨ mem x r.items) {q : Rng} (hq : orLast l r = some q)
    (hm : mem (q.2 - 1) o) : ∃ c, o.getLast? = some c ∧ c.2 = q.2 :=
  have ok := orLast_ok l r hl hr o ho hsub q hq
  (getLast?_end_iff ho q.2).2 ⟨Nat.zero_lt_of_lt ok.1, hm, ok.2⟩

theorem mem_pred_orLast {l r : Src} (hl : l.HintOk) (hr : r.HintOk) (el : l.LastExact) (er : r.LastExact)
    (cl : Canon l.items) (cr : Canon r.items) {q : Rng} (hq : orLast l r = some q) :
    (mem (q.2 - 1) l.items ∨ mem (q.2 - 1) r.items) ∧
    ((∀ r1 r2, l.last = some r1 → r.last = some r2 → r1.2 ≠ r2.2) →
      ¬ (mem (q.2 - 1) l.items ∧ mem (q.2 - 1) r.items)) := by
  obtain ⟨r1, r2, h1, h2, -, hend⟩ := orLast_spec hl hr hq
  obtain ⟨-, m1, b1⟩ := (getLast?_end_iff cl r1.2).1 (el r1 h1)
  obtain ⟨-, m2, b2⟩ := (getLast?_end_iff cr r2.2).1 (er r2 h2)
  rw [hend]
  refine ⟨?_, fun hne ⟨a, b⟩ => ?_⟩
  · rcases Nat.le_total r1.2 r2.2 with hc | hc
    · rw [Nat.max_eq_right hc]; exact Or.inr m2
    · rw [Nat.max_eq_left hc]; exact Or.inl m1
  · have := hne r1 r2 h1 h2
    have := b1.lt a
    have := b2.lt b
    omega

/-- The announced upper bounds are computed from the operands after their first `next()`: each has then yielded one
    range that its own bound no longer counts. -/
theorem andSizeHi_bound (l r : Src) (hl : l.HintOkAll) (hr : r.HintOkAll) (n : Nat)
    (hn : andSizeHi l.afterNext r.afterNext = some n) : l.items.length + r.items.length - 1 ≤ n := by
  unfold andSizeHi at hn
  split at hn <;> cases hn
  have := l.length_le_of_afterNext_hi hl ‹_›
  have := r.length_le_of_afterNext_hi hr ‹_›
  omega

theorem binSizeHi_bound (l r : Src) (hl : l.HintOkAll) (hr : r.HintOkAll) (n : Nat)
    (hn : binSizeHi l.afterNext r.afterNext = some n) : l.items.length + r.items.length ≤ n := by
  unfold binSizeHi at hn
  split at hn <;> cases hn
  have := l.length_le_of_afterNext_hi hl ‹_›
  have := r.length_le_of_afterNext_hi hr ‹_›
  omega

theorem orItems_disjoint (l r : Src) (hd : orDisjoint l r = true) : orItems l r = r.items ++ l.items := by
  unfold orItems
  unfold orDisjoint at hd
  split at hd
  · simp only [if_pos (of_decide_eq_true hd)]
  · cases hd

/-- Pure list facts behind `NotRangeIter::size_hint`. -/
theorem not_bounds (ub : Nat) (items : List Rng) (cs : Canon items) (hb : BoundedBy ub items) :
    (notCurrSome ub items = true →
      (items.drop (notConsumed ub items)).length + 1 ≤ (complement ub items).length ∧
      (complement ub items).length ≤ (items.drop (notConsumed ub items)).length + 2) ∧
    (notCurrSome ub items = false → complement ub items = []) := by
  match items, cs, hb with
  | [], _, _ => simp [notCurrSome, notConsumed, complement]
  | [r], _, hb =>
    by_cases h0 : r.1 = 0 <;> rcases Nat.lt_or_eq_of_le (hb r (List.mem_cons_self ..)) with he | he <;>
      simp [notCurrSome, notConsumed, complement, complFrom, h0, he, Nat.ne_of_lt]
  | r :: r2 :: t, cs, hb =>
    -- the second range ends inside the domain, so the first one does not fill it
    have he : r.2 ≠ ub := by
      have := cs.2.2.1
      have := cs.2.2.2.1
      have := hb r2 (List.mem_cons_of_mem _ (List.mem_cons_self ..))
      omega
    have := complFrom_length r2.2 ub t
    by_cases h0 : r.1 = 0 <;> simp [notCurrSome, notConsumed, complement, complFrom, h0, he] <;> omega

end Moc
