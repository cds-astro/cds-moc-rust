/-
  C05 — aligned blocks `[p, p + 2^k)` with `2^k ∣ p`: rounding to a multiple of `2^k`, nesting of blocks,
  and the fact that a set of covered indices has ONE family of maximal aligned cells (`maximal_unique`): two
  aligned cells lying inside `M`, both maximal (their parents do not lie inside `M`) and sharing an index, are
  the same cell.  The namespace `Moc.UniqIter` is shared by the iterator (`UniqIter.lean`) and the cell view
  (`CellMax.lean`), whose cells are both the `MaxBlock`s of the MOC.
-/
import MocVerif.Lemmas.Canon
import MocVerif.Lemmas.Shift

namespace Moc.UniqIter
open Moc

def down (k a : Nat) : Nat := (a >>> k) <<< k
def up (k a : Nat) : Nat := down k (a + (2 ^ k - 1))

theorem down_spec (k a : Nat) : down k a ≤ a ∧ a < down k a + 2 ^ k ∧ 2 ^ k ∣ down k a :=
  have h := shr_shl_le_lt k a
  ⟨h.1, succ_shl (a >>> k) k ▸ h.2, dvd_shl _ k⟩

theorem up_spec (k a : Nat) : a ≤ up k a ∧ up k a < a + 2 ^ k ∧ 2 ^ k ∣ up k a := by
  obtain ⟨h1, h2, h3⟩ := down_spec k (a + (2 ^ k - 1))
  have hp := Nat.two_pow_pos k
  -- `a + (2^k - 1) + 1 = a + 2^k`
  rw [Nat.lt_iff_add_one_le, Nat.add_assoc, Nat.sub_add_cancel hp] at h2
  exact ⟨Nat.le_of_add_le_add_right h2, Nat.lt_of_le_of_lt h1 (Nat.add_lt_add_left (Nat.sub_lt hp Nat.one_pos) a), h3⟩

/-- The parent of the cell `c` of level `j` is the cell `c >>> g` of level `j + 1`. -/
theorem down_shl (g j c : Nat) : down (g * (j + 1)) (c <<< (g * j)) = (c >>> g) <<< (g * (j + 1)) := by
  unfold down
  rw [Nat.mul_succ, Nat.shiftRight_add, Nat.shiftLeft_shiftRight]

theorem le_down_of_dvd (k p e : Nat) (hp : 2 ^ k ∣ p) (h : p ≤ e) : p ≤ down k e :=
  Nat.le_of_lt_add_of_dvd (Nat.lt_of_le_of_lt h (down_spec k e).2.1) hp (down_spec k e).2.2

theorem down_add_le_of_dvd (k x q : Nat) (hq : 2 ^ k ∣ q) (h : x < q) : down k x + 2 ^ k ≤ q :=
  add_le_of_dvd (down_spec k x).2.2 hq (Nat.lt_of_le_of_lt (down_spec k x).1 h)

theorem up_le_of_dvd (k a p : Nat) (hp : 2 ^ k ∣ p) (h : a ≤ p) : up k a ≤ p :=
  Nat.le_of_lt_add_of_dvd (Nat.lt_of_lt_of_le (up_spec k a).2.1 (Nat.add_le_add_right h _)) (up_spec k a).2.2 hp

def BlockIn (k p : Nat) (S : List Rng) : Prop := ∀ x, p ≤ x → x < p + 2 ^ k → mem x S

def NoBlk (k : Nat) (S : List Rng) : Prop := ∀ p, 2 ^ k ∣ p → ¬ BlockIn k p S

theorem block_nest (a b p q x : Nat) (hab : a ≤ b) (hp : 2 ^ a ∣ p) (hq : 2 ^ b ∣ q)
    (hx1 : p ≤ x ∧ x < p + 2 ^ a) (hx2 : q ≤ x ∧ x < q + 2 ^ b) : q ≤ p ∧ p + 2 ^ a ≤ q + 2 ^ b :=
  have hdv : 2 ^ a ∣ 2 ^ b := Nat.pow_dvd_pow 2 hab
  -- `p`, `q` and `q + 2^b` are multiples of `2^a` with `q < p + 2^a` and `p < q + 2^b`
  have hq' : 2 ^ a ∣ q := Nat.dvd_trans hdv hq
  ⟨Nat.le_of_lt_add_of_dvd (Nat.lt_of_le_of_lt hx2.1 hx1.2) hq' hp,
   add_le_of_dvd hp (Nat.dvd_add hq' hdv) (Nat.lt_of_le_of_lt hx1.1 hx2.2)⟩

def parentStart (g j p : Nat) : Nat := down (g * (j + 1)) p

theorem block_in_parent (g j p : Nat) (hp : 2 ^ (g * j) ∣ p) :
    parentStart g j p ≤ p ∧ p + 2 ^ (g * j) ≤ parentStart g j p + 2 ^ (g * (j + 1)) :=
  have hds := down_spec (g * (j + 1)) p
  block_nest (g * j) (g * (j + 1)) p (parentStart g j p) p (Nat.mul_le_mul_left g (Nat.le_succ j)) hp hds.2.2
    ⟨Nat.le_refl _, Nat.lt_add_of_pos_right (Nat.two_pow_pos _)⟩ ⟨hds.1, hds.2.1⟩

def MaximalIn (g J : Nat) (j p : Nat) (M : List Rng) : Prop :=
  j < J → ¬ BlockIn (g * (j + 1)) (parentStart g j p) M

theorem level_le_of_maximal (g J : Nat) (M : List Rng) (ja pa jb pb x : Nat)
    (haa : 2 ^ (g * ja) ∣ pa) (hab : 2 ^ (g * jb) ∣ pb) (hJb : jb ≤ J) (hib : BlockIn (g * jb) pb M)
    (hma : MaximalIn g J ja pa M) (hxa : pa ≤ x ∧ x < pa + 2 ^ (g * ja)) (hxb : pb ≤ x ∧ x < pb + 2 ^ (g * jb)) :
    jb ≤ ja :=
  Nat.le_of_not_lt fun hlt =>
    have hpar := block_in_parent g ja pa haa
    -- were `a` strictly below `b`, its parent (which contains `x`, at a level ≤ that of `b`) would lie inside
    -- `b`, hence inside `M`
    have hnest := block_nest (g * (ja + 1)) (g * jb) (parentStart g ja pa) pb x (Nat.mul_le_mul_left g hlt)
      (down_spec (g * (ja + 1)) pa).2.2 hab ⟨Nat.le_trans hpar.1 hxa.1, Nat.lt_of_lt_of_le hxa.2 hpar.2⟩ hxb
    hma (Nat.lt_of_lt_of_le hlt hJb) fun y hy1 hy2 => hib y (Nat.le_trans hnest.1 hy1) (Nat.lt_of_lt_of_le hy2 hnest.2)

theorem maximal_unique (g J : Nat) (M : List Rng) (j1 p1 j2 p2 x : Nat)
    (ha1 : 2 ^ (g * j1) ∣ p1) (ha2 : 2 ^ (g * j2) ∣ p2) (hJ1 : j1 ≤ J) (hJ2 : j2 ≤ J)
    (hi1 : BlockIn (g * j1) p1 M) (hi2 : BlockIn (g * j2) p2 M)
    (hm1 : MaximalIn g J j1 p1 M) (hm2 : MaximalIn g J j2 p2 M)
    (hx1 : p1 ≤ x ∧ x < p1 + 2 ^ (g * j1)) (hx2 : p2 ≤ x ∧ x < p2 + 2 ^ (g * j2)) :
    j1 = j2 ∧ p1 = p2 := by
  have hlev : j1 = j2 := Nat.le_antisymm
    (level_le_of_maximal g J M j2 p2 j1 p1 x ha2 ha1 hJ1 hi1 hm2 hx2 hx1)
    (level_le_of_maximal g J M j1 p1 j2 p2 x ha1 ha2 hJ2 hi2 hm1 hx1 hx2)
  subst hlev
  -- two blocks of one level sharing an index lie inside each other
  exact ⟨rfl, Nat.le_antisymm (block_nest _ _ p2 p1 x (Nat.le_refl _) ha2 ha1 hx2 hx1).1
    (block_nest _ _ p1 p2 x (Nat.le_refl _) ha1 ha2 hx1 hx2).1⟩

def MaxBlock (g J : Nat) (M : List Rng) (j p : Nat) : Prop :=
  2 ^ (g * j) ∣ p ∧ j ≤ J ∧ BlockIn (g * j) p M ∧ MaximalIn g J j p M

/-- A family `Q` of maximal aligned blocks of `M` that covers `M` is THE family of maximal aligned blocks of `M`. -/
theorem maxBlock_iff_of_cover (g J : Nat) (M : List Rng) (Q : Nat → Nat → Prop)
    (hQ : ∀ j p, Q j p → MaxBlock g J M j p)
    (hcov : ∀ x, mem x M → ∃ j p, Q j p ∧ p ≤ x ∧ x < p + 2 ^ (g * j)) (j p : Nat) :
    Q j p ↔ MaxBlock g J M j p := by
  refine ⟨hQ j p, fun ⟨a1, a2, a3, a4⟩ => ?_⟩
  have hpos : p < p + 2 ^ (g * j) := Nat.lt_add_of_pos_right (Nat.two_pow_pos _)
  -- the block of the family that covers `p` is the block `(j, p)`
  obtain ⟨j', p', hq', h1, h2⟩ := hcov p (a3 p (Nat.le_refl _) hpos)
  obtain ⟨b1, b2, b3, b4⟩ := hQ j' p' hq'
  obtain ⟨rfl, rfl⟩ := maximal_unique g J M j' p' j p p b1 a1 b2 a2 b3 a3 b4 a4 ⟨h1, h2⟩ ⟨Nat.le_refl _, hpos⟩
  exact hq'

end Moc.UniqIter
