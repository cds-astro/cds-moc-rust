/-
  Shifts as multiplication and division by `2^k`, multiples of a number `c` and the cells `x / c` they bound,
  half-open intervals.
-/
namespace Moc

theorem mul_le_iff {c : Nat} (hc : 0 < c) (k x : Nat) : c * k ≤ x ↔ k ≤ x / c := by
  rw [Nat.le_div_iff_mul_le hc, Nat.mul_comm]

theorem lt_mul_iff {c : Nat} (hc : 0 < c) (k x : Nat) : x < c * k ↔ x / c < k := by
  rw [Nat.div_lt_iff_lt_mul hc, Nat.mul_comm]

theorem al_le_iff {c m : Nat} (hc : 0 < c) (hm : c ∣ m) (x : Nat) : m ≤ x ↔ m / c ≤ x / c := by
  rw [Nat.le_div_iff_mul_le hc, Nat.div_mul_cancel hm]

theorem al_lt_iff {c m : Nat} (hc : 0 < c) (hm : c ∣ m) (x : Nat) : x < m ↔ x / c < m / c := by
  rw [Nat.div_lt_iff_lt_mul hc, Nat.div_mul_cancel hm]

theorem shl_le_iff (sh a x : Nat) : a <<< sh ≤ x ↔ a ≤ x / 2 ^ sh := by
  rw [Nat.shiftLeft_eq, Nat.le_div_iff_mul_le (Nat.two_pow_pos sh)]
theorem lt_shl_iff (sh b x : Nat) : x < b <<< sh ↔ x / 2 ^ sh < b := by
  rw [Nat.shiftLeft_eq, Nat.div_lt_iff_lt_mul (Nat.two_pow_pos sh)]
theorem shl_lt_shl (sh a b : Nat) (h : a < b) : a <<< sh < b <<< sh := by
  rw [Nat.shiftLeft_eq, Nat.shiftLeft_eq]
  exact Nat.mul_lt_mul_of_pos_right h (Nat.two_pow_pos sh)
theorem shl_le_shl (sh a b : Nat) (h : a ≤ b) : a <<< sh ≤ b <<< sh := by
  rw [Nat.shiftLeft_eq, Nat.shiftLeft_eq]
  exact Nat.mul_le_mul_right _ h

theorem shl_add_one_le (sh a b : Nat) (h : a < b) : (a + 1) <<< sh ≤ b <<< sh :=
  shl_le_shl sh (a + 1) b h

theorem succ_shl (c k : Nat) : (c + 1) <<< k = c <<< k + 2 ^ k := by
  rw [Nat.shiftLeft_eq, Nat.shiftLeft_eq, Nat.add_mul, Nat.one_mul]

theorem dvd_shl (c k : Nat) : 2 ^ k ∣ c <<< k := by
  rw [Nat.shiftLeft_eq]
  exact Nat.dvd_mul_left _ _

theorem shr_shl_of_dvd (sh s : Nat) (h : 2 ^ sh ∣ s) : (s >>> sh) <<< sh = s := by
  rw [Nat.shiftRight_eq_div_pow, Nat.shiftLeft_eq]
  exact Nat.div_mul_cancel h

theorem shr_shl_le_lt (k x : Nat) : (x >>> k) <<< k ≤ x ∧ x < ((x >>> k) + 1) <<< k := by
  rw [shl_le_iff, lt_shl_iff, Nat.shiftRight_eq_div_pow]
  exact ⟨Nat.le_refl _, Nat.lt_succ_self _⟩

theorem ico_single {c k : Nat} : (c ≤ k ∧ k < c + 1) ↔ k = c :=
  ⟨fun h => Nat.le_antisymm (Nat.le_of_lt_succ h.2) h.1, fun h => h ▸ ⟨Nat.le_refl _, Nat.lt_succ_self _⟩⟩

theorem ico_append {a b c x : Nat} (hab : a ≤ b) (hbc : b ≤ c) :
    (a ≤ x ∧ x < b) ∨ (b ≤ x ∧ x < c) ↔ a ≤ x ∧ x < c :=
  ⟨fun h => h.elim (fun h => ⟨h.1, Nat.lt_of_lt_of_le h.2 hbc⟩) (fun h => ⟨Nat.le_trans hab h.1, h.2⟩),
   fun h => (Nat.lt_or_ge x b).elim (fun hx => .inl ⟨h.1, hx⟩) (fun hx => .inr ⟨hx, h.2⟩)⟩

theorem add_le_of_dvd {m a b : Nat} (ha : m ∣ a) (hb : m ∣ b) (h : a < b) : a + m ≤ b :=
  Nat.le_of_lt_add_of_dvd (Nat.add_lt_add_right h m) (Nat.dvd_add ha (Nat.dvd_refl m)) hb

theorem no_multiple_between (m a p : Nat) (hm : 0 < m) (ha : m ∣ a) (hp : m ∣ p) (h1 : a < p) (h2 : p < a + m) : False :=
  Nat.not_le_of_gt h1 (Nat.le_of_lt_add_of_dvd h2 hp ha)

end Moc
