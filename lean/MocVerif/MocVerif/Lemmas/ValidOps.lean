/-
  Every modelled operator preserves `Valid q w d` (canonical + inside the domain + aligned on the
  cells of the declared depth).
-/
import MocVerif.Lemmas.Degrade
import MocVerif.Lemmas.Valid

namespace Moc

theorem valid_binary (q : Qty) (w dl dr : Nat) (a b o : List Rng) (f : Prop → Prop → Prop)
    (hf : ¬ f False False) (ha : Valid q w dl a) (hb : Valid q w dr b) (ho : Canon o)
    (hsem : ∀ x, mem x o ↔ f (mem x a) (mem x b)) : Valid q w (max dl dr) o := by
  have ha' := ha.deeper (Nat.le_max_left dl dr)
  have hb' := hb.deeper (Nat.le_max_right dl dr)
  exact ⟨ho, valid_of_sem _ _ (q.cellSize_pos w (max dl dr)) a b o f hf ho ha'.2.1 hb'.2.1
    ha'.2.2 hb'.2.2 hsem⟩

theorem valid_complement (q : Qty) (w d : Nat) (a : List Rng) (h0 : 0 < q.nCellsMax w)
    (ha : Valid q w d a) : Valid q w d (complement (q.nCellsMax w) a) := by
  have sp := complement_spec (q.nCellsMax w) a h0 ha.1 ha.2.1
  have ca := cellClosed_of_aligned _ (q.cellSize_pos w d) a ha.2.2
  refine .of_set sp.1 (fun x hx => ((sp.2 x).1 hx).1) (fun x y hxy hx => ?_)
  have ⟨h1, h2⟩ := (sp.2 x).1 hx
  exact (sp.2 y).2 ⟨q.lt_nCellsMax_of_cell w d hxy.symm h1, fun hy => h2 (ca y x hxy.symm hy)⟩

theorem valid_degraded (q : Qty) (w d nd : Nat) (a : List Rng) (ha : Valid q w d a) :
    Valid q w nd (degradedShift (q.shiftFromMax w nd) a) :=
  have sp := degradedShift_spec (q.shiftFromMax w nd) a ha.1
  .of_cells sp.1 ha.2.1 sp.2

theorem degraded_deeper_eq (q : Qty) (w d nd : Nat) (a : List Rng) (ha : Valid q w d a) (h : d ≤ nd) :
    degradedShift (q.shiftFromMax w nd) a = a :=
  degradedShift_eq_self ha.1 (cellClosed_of_aligned _ (Nat.two_pow_pos _) a (ha.deeper h).aligned)

end Moc
