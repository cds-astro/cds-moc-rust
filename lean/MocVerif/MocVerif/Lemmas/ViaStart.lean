/-
  `intersection`, `intersects` and `overlapped_by_iter` run the same prologue (`viaStart`) before their two-pointer
  loop: empty operands, a quick rejection on the extreme bounds, and a binary search for the first range of the
  operand that starts first.  It changes nothing for a loop that skips a range lying entirely before the other
  operand's current range (`SkipLoop`, `viaStart_eq`).
-/
import MocVerif.Lemmas.Canon

namespace Moc

def viaStart {α} (loop : List Rng → List Rng → α) (e : α) (l r : List Rng) : α :=
  match l, r with
  | [], _ => e
  | _, [] => e
  | l0 :: lt, r0 :: rt =>
    if l0.1 ≥ lastEndD r0.2 rt || lastEndD l0.2 lt ≤ r0.1 then e
    else if l0.1 < r0.1 then loop ((l0 :: lt).drop (startIdx r0.1 (l0 :: lt))) (r0 :: rt)
    else if l0.1 > r0.1 then loop (l0 :: lt) ((r0 :: rt).drop (startIdx l0.1 (r0 :: rt)))
    else loop (l0 :: lt) (r0 :: rt)

/-- `step` has the shape of the third equation of the loops (`f.eq_3`; `g` is the rest of it), so that an instance is
    `⟨f.eq_1, f.eq_2, _, f.eq_3⟩`. -/
structure SkipLoop {α} (loop : List Rng → List Rng → α) (e : α) : Prop where
  nil_left : ∀ r, loop [] r = e
  nil_right : ∀ l lt, loop (l :: lt) [] = e
  step : ∃ g : Rng → List Rng → Rng → List Rng → α, ∀ l lt r rt, loop (l :: lt) (r :: rt) =
    if l.2 ≤ r.1 then loop lt (r :: rt) else if r.2 ≤ l.1 then loop (l :: lt) rt else g l lt r rt

theorem drop_startIdx_eq {β : Sort _} {f : List Rng → β} {key : Nat}
    (hf : ∀ c ct, c.1 < c.2 → c.2 ≤ key → f (c :: ct) = f ct) (l : List Rng) :
    ∀ a, CanonFrom a l → f (l.drop (startIdx key l)) = f l := by
  fun_induction startIdx key l with
  | case1 => intro _ _; rfl
  | case2 x => intro _ _; rfl
  | case3 l0 s t hle ih =>
    intro a hc
    rw [Nat.add_comm, List.drop_succ_cons, ih _ hc.2.2]
    exact (hf _ _ hc.2.1 (Nat.le_trans (Nat.le_of_succ_le hc.2.2.1) hle)).symm
  | case4 l0 s t hle => intro _ _; rfl

theorem run_out_eq {β : Sort _} {f : List Rng → β} {key : Nat}
    (hf : ∀ c ct, c.1 < c.2 → c.2 ≤ key → f (c :: ct) = f ct) (l : List Rng)
    (hl : ∀ c ∈ l, c.1 < c.2 ∧ c.2 ≤ key) : f l = f [] := by
  induction l with
  | nil => rfl
  | cons c t ih =>
    have := hl c (List.mem_cons_self ..)
    rw [hf _ _ this.1 this.2]
    exact ih fun c hc => hl c (List.mem_cons_of_mem _ hc)

theorem viaStart_eq {α} {loop : List Rng → List Rng → α} {e : α} (h : SkipLoop loop e)
    (l r : List Rng) (hl : Canon l) (hr : Canon r) : viaStart loop e l r = loop l r := by
  cases l with
  | nil => exact (h.nil_left _).symm
  | cons l0 lt =>
  cases r with
  | nil => exact (h.nil_right _ _).symm
  | cons r0 rt =>
    obtain ⟨g, hg⟩ := h.step
    -- each operand is dropped range by range while it ends before the other one's first range
    have fl : ∀ c ct, c.1 < c.2 → c.2 ≤ r0.1 → loop (c :: ct) (r0 :: rt) = loop ct (r0 :: rt) :=
      fun c ct _ h2 => (hg c ct r0 rt).trans (if_pos h2)
    have fr : ∀ c ct, c.1 < c.2 → c.2 ≤ l0.1 → loop (l0 :: lt) (c :: ct) = loop (l0 :: lt) ct := fun c ct h1 h2 =>
      ((hg l0 lt c ct).trans (if_neg (Nat.not_le.2 (Nat.lt_trans (Nat.lt_of_lt_of_le h1 h2) hl.2.1)))).trans (if_pos h2)
    by_cases hq : (decide (l0.1 ≥ lastEndD r0.2 rt) || decide (lastEndD l0.2 lt ≤ r0.1)) = true
    · refine Eq.trans (if_pos hq) (Eq.symm ?_)
      rw [Bool.or_eq_true, decide_eq_true_eq, decide_eq_true_eq] at hq
      rcases hq with hq | hq
      · exact (run_out_eq fr _ fun c hc => ⟨canon_nonempty hr c hc, Nat.le_trans (hr.ends_le c hc) hq⟩).trans
          (h.nil_right _ _)
      · exact (run_out_eq (f := (loop · (r0 :: rt))) fl _ fun c hc =>
          ⟨canon_nonempty hl c hc, Nat.le_trans (hl.ends_le c hc) hq⟩).trans (h.nil_left _)
    · refine Eq.trans (if_neg hq) ?_
      by_cases h1 : l0.1 < r0.1
      · exact Eq.trans (if_pos h1) (drop_startIdx_eq (f := (loop · (r0 :: rt))) fl (l0 :: lt) 0 hl)
      · refine Eq.trans (if_neg h1) ?_
        by_cases h2 : l0.1 > r0.1
        · exact Eq.trans (if_pos h2) (drop_startIdx_eq fr (r0 :: rt) 0 hr)
        · exact if_neg h2

theorem intersection_eq_viaStart (l r : List Rng) : intersection l r = viaStart interLoop [] l r := by
  cases l <;> cases r <;> rfl

theorem skip_interLoop : SkipLoop interLoop [] := ⟨interLoop.eq_1, interLoop.eq_2, _, interLoop.eq_3⟩

end Moc
