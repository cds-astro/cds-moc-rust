/-
  Lists of bounds.  A canonical list of ranges is a strictly increasing list of bounds (`strictFrom_flatten`) that
  covers `x` iff the number of bounds `≤ x` is odd (`memF`, `memF_flatten`).  On this semantics the generic edge
  sweep `BorrowedRanges::merge(op)` computes `op` pointwise.
-/
import MocVerif.Lemmas.Canon

namespace Moc

def StrictFrom (lo : Nat) : List Nat → Prop
  | [] => True
  | b :: t => lo ≤ b ∧ StrictFrom (b + 1) t

/-- The state `ins` ("inside a range") toggles at every bound `≤ x`. -/
def memF (x : Nat) : Bool → List Nat → Bool
  | ins, [] => ins
  | ins, b :: t => if x < b then ins else memF x (!ins) t

/-- State after all bounds. -/
def fin : Bool → List Nat → Bool
  | ins, [] => ins
  | ins, _ :: t => fin (!ins) t

theorem StrictFrom.mono {lo lo' : Nat} {l : List Nat} (h : StrictFrom lo l) (hle : lo' ≤ lo) :
    StrictFrom lo' l := by
  cases l with
  | nil => trivial
  | cons b t => exact ⟨Nat.le_trans hle h.1, h.2⟩

theorem memF_below {lo : Nat} {l : List Nat} (h : StrictFrom lo l) {x : Nat} (hx : x < lo) (ins : Bool) :
    memF x ins l = ins := by
  cases l with
  | nil => rfl
  | cons b t => exact if_pos (Nat.lt_of_lt_of_le hx h.1)

theorem strictFrom_flatten {lo : Nat} {l : List Rng} : StrictFrom lo (flatten l) ↔ CanonFrom lo l := by
  induction l generalizing lo with
  | nil => exact Iff.rfl
  | cons r t ih => exact and_congr_right fun _ => and_congr_right fun _ => ih

theorem fin_flatten (l : List Rng) : fin false (flatten l) = false := by
  induction l with
  | nil => rfl
  | cons r t ih => exact ih

theorem memF_flatten {lo : Nat} {l : List Rng} (h : CanonFrom lo l) (x : Nat) :
    memF x false (flatten l) = true ↔ mem x l := by
  induction l generalizing lo with
  | nil => exact iff_of_false Bool.false_ne_true id
  | cons r t ih =>
    obtain ⟨-, h2, h3⟩ := h
    show (if x < r.1 then false else if x < r.2 then true else memF x false (flatten t)) = true ↔ _
    by_cases c1 : x < r.1
    · rw [if_pos c1]
      exact iff_of_false Bool.false_ne_true fun hm =>
        hm.elim (fun h => Nat.not_le_of_gt c1 h.1) fun h => Nat.lt_irrefl x (Nat.lt_trans (Nat.lt_trans c1 h2) (h3.lb h))
    · rw [if_neg c1]
      by_cases c2 : x < r.2
      · rw [if_pos c2]
        exact iff_of_true rfl (Or.inl ⟨Nat.not_lt.1 c1, c2⟩)
      · rw [if_neg c2]
        exact (ih h3).trans ⟨Or.inr, fun hm => hm.resolve_left fun h => c2 h.2⟩

theorem flatten_unflatten : ∀ o : List Nat, fin false o = false → flatten (unflatten o) = o
  | [], _ => rfl
  | [_], hf => nomatch hf
  | a :: b :: t, hf => congrArg (a :: b :: ·) (flatten_unflatten t hf)

theorem memF_stay {c : Nat} {t : List Nat} (h : StrictFrom (c + 1) t) (j : Bool) (x : Nat) :
    memF x j t = if x < c then j else memF x j t := by
  split
  · next hx => exact memF_below h (Nat.lt_succ_of_lt hx) j
  · rfl

/-- `inL` / `inR` of `mergeSweep`: the state of a side after the bound `c`, when `c` is, or is not yet, that side's
    next bound `v`. -/
theorem in_of_eq {c v : Nat} (i : Bool) (h : c = v) : ((!i && c == v) || (i && decide (c < v))) = !i := by
  cases i <;> simp [h]
theorem in_of_lt {c v : Nat} (i : Bool) (h : c < v) : ((!i && c == v) || (i && decide (c < v))) = i := by
  cases i <;> simp [h]; omega

/-- One step of the sweep, at the bound `c`, where the sides go from the states `i`, `j` to `i'`, `j'` (`hL`, `hR`; `a`, `b`
    are `i'`, `j'` as the code computes them).  `hout` is the `if add` of the code, decided by the caller.  Either way
    `o' = op i' j'`, so `ih` may ask for the invariant. -/
theorem sweep_step {op : Bool → Bool → Bool} {lo c : Nat} {o o' i j i' j' a b z : Bool}
    {li rj li' rj' R out : List Nat} (ho : o = op i j) (hlo : lo ≤ c)
    (hL : ∀ x, memF x i li = if x < c then i else memF x i' li')
    (hR : ∀ x, memF x j rj = if x < c then j else memF x j' rj')
    (ea : a = i') (eb : b = j')
    (hout : (o != op a b) = true ∧ out = c :: R ∧ o' = !o ∨ ¬ (o != op a b) = true ∧ out = R ∧ o' = o)
    (ih : o' = op i' j' → StrictFrom (c + 1) R ∧ fin o' R = z ∧
      ∀ x, memF x o' R = op (memF x i' li') (memF x j' rj')) :
    StrictFrom lo out ∧ fin o out = z ∧ ∀ x, memF x o out = op (memF x i li) (memF x j rj) := by
  subst ea eb
  rcases hout with ⟨hadd, rfl, rfl⟩ | ⟨hadd, rfl, rfl⟩
  · obtain ⟨h1, h2, h3⟩ := ih (Bool.not_eq.2 (bne_iff_ne.1 hadd))
    refine ⟨⟨hlo, h1⟩, h2, fun x => ?_⟩
    rw [hL, hR, memF, h3]; split <;> simp [ho]
  · obtain ⟨h1, h2, h3⟩ := ih (Decidable.of_not_not fun hn => hadd (bne_iff_ne.2 hn))
    refine ⟨h1.mono (Nat.le_succ_of_le hlo), h2, fun x => ?_⟩
    rw [hL, hR]; split
    · -- below `c` the rest of the output has not changed state yet
      next hx => rw [memF_below h1 (Nat.lt_succ_of_lt hx), ho]
    · exact h3 x

/-- `iOdd`, `jOdd`, `open_` (parities of indices in the code) are the `ins` of `memF` for `li`, `rj` and the output;
    the invariant of the loop is `open_ = op iOdd jOdd`.  The cases come in pairs, `add` or not, one pair for each branch
    of `mergeSweep`: left exhausted, right exhausted, `c = lv = rv`, `c = lv < rv`, `c = rv < lv`. -/
theorem mergeSweep_spec (op : Bool → Bool → Bool) (li : List Nat) (iOdd : Bool) (rj : List Nat)
    (jOdd : Bool) (open_ : Bool) :
    ∀ lo, StrictFrom lo li → StrictFrom lo rj → fin iOdd li = false → fin jOdd rj = false →
    open_ = op iOdd jOdd →
    StrictFrom lo (mergeSweep op li iOdd rj jOdd open_) ∧
    fin open_ (mergeSweep op li iOdd rj jOdd open_) = op false false ∧
    ∀ x, memF x open_ (mergeSweep op li iOdd rj jOdd open_) = op (memF x iOdd li) (memF x jOdd rj) := by
  fun_induction mergeSweep op li iOdd rj jOdd open_ with
  | case1 iOdd jOdd open_ => intro lo _ _ h1 h2 h; simp [fin] at h1 h2; simp [StrictFrom, fin, memF, h, h1, h2]
  | case2 iOdd rv rj jOdd open_ inR hadd ih | case3 iOdd rv rj jOdd open_ inR hadd ih =>
    intro lo _ hR hfl hfr ho
    cases (show iOdd = false from hfl)
    -- the two cases differ in whether `rv` is emitted (`hadd`)
    exact sweep_step ho hR.1 (fun x => by simp [memF]) (fun x => rfl) rfl rfl
      (by first | exact .inl ⟨hadd, rfl, rfl⟩ | exact .inr ⟨hadd, rfl, rfl⟩) (ih (rv + 1) trivial hR.2 rfl hfr)
  | case4 lv li iOdd jOdd open_ inL hadd ih | case5 lv li iOdd jOdd open_ inL hadd ih =>
    intro lo hL _ hfl hfr ho
    cases (show jOdd = false from hfr)
    exact sweep_step ho hL.1 (fun x => rfl) (fun x => by simp [memF]) rfl rfl
      (by first | exact .inl ⟨hadd, rfl, rfl⟩ | exact .inr ⟨hadd, rfl, rfl⟩) (ih (lv + 1) hL.2 trivial hfl rfl)
  | case6 lv li iOdd rv rj jOdd open_ c inL inR add hc hadd ih
  | case7 lv li iOdd rv rj jOdd open_ c inL inR add hc hadd ih =>
    intro lo hL hR hfl hfr ho
    simp only [Bool.and_eq_true, beq_iff_eq] at hc
    obtain ⟨hl, hr⟩ : c = lv ∧ c = rv := hc
    exact sweep_step ho (hl ▸ hL.1) (fun x => by rw [hl]; rfl) (fun x => by rw [hr]; rfl)
      (in_of_eq iOdd hl) (in_of_eq jOdd hr) (by first | exact .inl ⟨hadd, rfl, rfl⟩ | exact .inr ⟨hadd, rfl, rfl⟩)
      (ih (c + 1) (hl ▸ hL.2) (hr ▸ hR.2) hfl hfr)
  | case8 lv li iOdd rv rj jOdd open_ c inL inR add hc1 hc2 hadd ih
  | case9 lv li iOdd rv rj jOdd open_ c inL inR add hc1 hc2 hadd ih =>
    intro lo hL hR hfl hfr ho
    simp only [Bool.and_eq_true, beq_iff_eq, not_and] at hc1 hc2
    have hl : c = lv := hc2
    have hr : c < rv := Nat.lt_of_le_of_ne (Nat.min_le_right lv rv) (hc1 hc2)
    have h4' : StrictFrom (c + 1) (rv :: rj) := ⟨hr, hR.2⟩
    exact sweep_step ho (hl ▸ hL.1) (fun x => by rw [hl]; rfl) (memF_stay h4' jOdd)
      (in_of_eq iOdd hl) (in_of_lt jOdd hr) (by first | exact .inl ⟨hadd, rfl, rfl⟩ | exact .inr ⟨hadd, rfl, rfl⟩)
      (ih (c + 1) (hl ▸ hL.2) h4' hfl hfr)
  | case10 lv li iOdd rv rj jOdd open_ c inL inR add hc1 hc2 hadd ih
  | case11 lv li iOdd rv rj jOdd open_ c inL inR add hc1 hc2 hadd ih =>
    intro lo hL hR hfl hfr ho
    simp only [beq_iff_eq] at hc2
    have hl : c < lv := Nat.lt_of_le_of_ne (Nat.min_le_left lv rv) hc2
    have hr : c = rv := Nat.min_eq_right (Nat.le_of_not_le fun h => Nat.ne_of_lt hl (Nat.min_eq_left h))
    have h2' : StrictFrom (c + 1) (lv :: li) := ⟨hl, hL.2⟩
    exact sweep_step ho (hr ▸ hR.1) (memF_stay h2' iOdd) (fun x => by rw [hr]; rfl)
      (in_of_lt iOdd hl) (in_of_eq jOdd hr) (by first | exact .inl ⟨hadd, rfl, rfl⟩ | exact .inr ⟨hadd, rfl, rfl⟩)
      (ih (c + 1) h2' (hr ▸ hR.2) hfl hfr)

theorem merge_spec (op : Bool → Bool → Bool) (hop : op false false = false) (l r : List Rng)
    (hl : Canon l) (hr : Canon r) :
    Canon (merge op l r) ∧
    ∀ x, mem x (merge op l r) ↔ op (decide (mem x l)) (decide (mem x r)) = true := by
  have sw := mergeSweep_spec op (flatten l) false (flatten r) false false 0 (strictFrom_flatten.2 hl)
    (strictFrom_flatten.2 hr) (fin_flatten l) (fin_flatten r) hop.symm
  have e := flatten_unflatten _ (sw.2.1.trans hop)
  have hc : Canon (merge op l r) := strictFrom_flatten.1 (e.symm ▸ sw.1)
  have dec {b : Bool} {p : Prop} [Decidable p] (h : b = true ↔ p) : b = decide p := by
    cases b <;> simp [← h]
  exact ⟨hc, fun x => by rw [← memF_flatten hc, merge, e, sw.2.2, dec (memF_flatten hl x), dec (memF_flatten hr x)]⟩

theorem difference_spec (l r : List Rng) (hl : Canon l) (hr : Canon r) :
    Canon (difference l r) ∧ ∀ x, mem x (difference l r) ↔ mem x l ∧ ¬ mem x r := by
  have := merge_spec (fun a b => a && !b) rfl l r hl hr
  exact ⟨this.1, fun x => by rw [difference, this.2]; simp⟩

end Moc
