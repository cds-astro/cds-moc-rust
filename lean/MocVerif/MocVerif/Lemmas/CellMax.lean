/-
  C05 — the cell view takes, at every step, the LARGEST aligned cell that fits; from this local maximality to
  the global one: the cells of the cell view are the maximal aligned blocks of the MOC.
-/
import MocVerif.Lemmas.CellView
import MocVerif.Lemmas.Blocks

namespace Moc
open Moc.UniqIter

theorem nextCellK_maximal (q : Qty) (hq : q.dim = 1 ∨ q.dim = 2) (w d s e : Nat) (hd : d ≤ q.maxDepth w)
    (hw : q.dim * q.maxDepth w + q.dim ≤ w)
    (hs : 2 ^ q.shiftFromMax w d ∣ s) (he : 2 ^ q.shiftFromMax w d ∣ e) (hse : s < e)
    (hpos : 0 < (nextCellK q w d s e).1.1) :
    ¬ (2 ^ (q.shiftFromMax w (nextCellK q w d s e).1.1 + q.dim) ∣ s ∧
       s + 2 ^ (q.shiftFromMax w (nextCellK q w d s e).1.1 + q.dim) ≤ e) := by
  rw [nextCellK_eq_nextCell q hq w d s e hd hs he hse, nextCell_eq] at hpos ⊢
  have hk := level_le q w s e
  simp only [Qty.shiftFromMax, Nat.sub_sub_self hk]
  -- one level up is still a level, and `level` is the greatest one that is aligned and fits
  exact fun hn => Nat.lt_irrefl _ ((le_level_iff q hq w s e hse _ (Nat.lt_of_sub_pos hpos)).2 hn)

theorem gtiles_mem {g J : Nat} : ∀ {bs : List (Nat × Nat)} {s e : Nat}, GTiles g J s e bs →
    ∀ b ∈ bs, s ≤ b.2 ∧ b.2 + 2 ^ (g * b.1) ≤ e := by
  intro bs
  induction bs with
  | nil => intro _ _ _ b hb; cases hb
  | cons b0 rest ih =>
    intro s e h b hb
    cases hb with
    | head => exact ⟨Nat.le_of_eq h.1.symm, h.1.symm ▸ h.2.2.1⟩
    | tail _ hm => exact (ih h.2.2.2.2.2 b hm).imp_left (Nat.le_trans (Nat.le_add_right _ _))

/-- No tile `(j, t)` below the top level has its parent block `[p, p + 2^(g(j+1)))` inside `[s, e)`: the first
    tile that the parent block meets would lie inside it, starting where it starts, and was not taken larger. -/
theorem gtiles_parent_not_inside (g J : Nat) : ∀ (bs : List (Nat × Nat)) (s e : Nat), GTiles g J s e bs →
    ∀ b ∈ bs, b.1 < J → ∀ p, 2 ^ (g * (b.1 + 1)) ∣ p → p ≤ b.2 → b.2 < p + 2 ^ (g * (b.1 + 1)) →
      s ≤ p → p + 2 ^ (g * (b.1 + 1)) ≤ e → False := by
  intro bs
  induction bs with
  | nil => intro _ _ _ b hb; cases hb
  | cons b0 rest ih =>
    intro s e h b hb hj p hdp hpt htp hsp hpe
    obtain ⟨h1, h2, -, -, h5, h6⟩ := h
    -- a parent block that starts at `s` and is larger than the first tile contradicts local maximality
    have hloc : p = s → b0.1 < b.1 + 1 → False := fun hps hlt =>
      h5 (Nat.lt_of_lt_of_le hlt hj) ⟨hps ▸ Nat.dvd_trans (Nat.pow_dvd_pow 2 (Nat.mul_le_mul_left g hlt)) hdp,
        Nat.le_trans (hps ▸ Nat.add_le_add_left (Nat.pow_le_pow_right Nat.two_pos (Nat.mul_le_mul_left g hlt)) p) hpe⟩
    cases hb with
    | head => exact hloc (Nat.le_antisymm (h1 ▸ hpt) hsp) (Nat.lt_succ_self _)
    | tail _ hm =>
      by_cases hge : s + 2 ^ (g * b0.1) ≤ p
      · exact ih _ e h6 b hm hj p hdp hpt htp hge hpe
      · -- the parent block and the first tile share the index `p`: one lies inside the other (`block_nest`)
        have hp1 : p ≤ p ∧ p < p + 2 ^ (g * (b.1 + 1)) := ⟨Nat.le_refl _, Nat.lt_add_of_pos_right (Nat.two_pow_pos _)⟩
        have hp0 : s ≤ p ∧ p < s + 2 ^ (g * b0.1) := ⟨hsp, Nat.lt_of_not_le hge⟩
        rcases Nat.lt_or_ge b0.1 (b.1 + 1) with hlt | hlev
        · exact hloc (Nat.le_antisymm
            (block_nest _ _ s p p (Nat.mul_le_mul_left g (Nat.le_of_lt hlt)) h2 hdp hp0 hp1).1 hsp) hlt
        · -- inside the first tile the parent block cannot reach `b`, which starts after it
          exact Nat.lt_irrefl _ (Nat.lt_of_lt_of_le (Nat.lt_of_le_of_lt (gtiles_mem h6 b hm).1 htp)
            (block_nest _ _ p s p (Nat.mul_le_mul_left g hlev) hdp h2 hp1 hp0).2)

theorem gtiles_maximal (g J : Nat) (hg : 0 < g) : ∀ (bs : List (Nat × Nat)) (s e : Nat), GTiles g J s e bs →
    ∀ b ∈ bs, b.1 < J → ∀ p, 2 ^ (g * (b.1 + 1)) ∣ p → p ≤ b.2 → b.2 < p + 2 ^ (g * (b.1 + 1)) →
      s ≤ p → p + 2 ^ (g * (b.1 + 1)) ≤ e → False :=
  gtiles_parent_not_inside g J

theorem cellsOf_block (q : Qty) (hq : q.dim = 1 ∨ q.dim = 2) (w d : Nat) (hd : d ≤ q.maxDepth w)
    (M : List Rng) (hc : Canon M) (ha : Aligned (2 ^ q.shiftFromMax w d) M) (c : Cell) (hcM : c ∈ cellsOf q w d M) :
    c.1 ≤ d ∧ MaxBlock q.dim (q.maxDepth w) M (tileOf q w c).1 (tileOf q w c).2 := by
  obtain ⟨r, hr, hcr⟩ := List.mem_flatMap.1 hcM
  have g2 := canon_nonempty hc r hr
  obtain ⟨hts, hgt⟩ := cellsOfRange_walk q hq w d hd (r.2 - r.1) r.1 r.2 (Nat.le_refl _) (Nat.le_of_lt g2)
    (ha r hr).1 (ha r hr).2
  have hmem := List.mem_map_of_mem (f := tileOf q w) hcr
  obtain ⟨hs1, hs2⟩ := gtiles_mem hgt _ hmem
  have hdv : 2 ^ (q.dim * (tileOf q w c).1) ∣ (tileOf q w c).2 := dvd_shl c.2 (q.shiftFromMax w c.1)
  have hJ : (tileOf q w c).1 ≤ q.maxDepth w := Nat.sub_le _ _
  generalize tileOf q w c = t at *
  have hend : t.2 < t.2 + 2 ^ (q.dim * t.1) := Nat.lt_add_of_pos_right (Nat.two_pow_pos _)
  refine ⟨tiles_depth q w d _ _ _ hts c hcr, hdv, hJ,
    fun x h1 h2 => (mem_iff_exists x M).2 ⟨r, hr, Nat.le_trans hs1 h1, Nat.lt_of_lt_of_le h2 hs2⟩, fun hlt hblk => ?_⟩
  -- the parent block is covered and meets `r` (at the start of the tile), so it lies inside `r`
  have hpar := block_in_parent q.dim t.1 t.2 hdv
  have hin : t.2 < parentStart q.dim t.1 t.2 + 2 ^ (q.dim * (t.1 + 1)) := Nat.lt_of_lt_of_le hend hpar.2
  obtain ⟨hlo, hhi⟩ := covered_interval_sub hc hr hblk ⟨hpar.1, hin⟩ ⟨hs1, Nat.lt_of_lt_of_le hend hs2⟩
  exact gtiles_parent_not_inside q.dim (q.maxDepth w) _ r.1 r.2 hgt t hmem hlt _
    (down_spec (q.dim * (t.1 + 1)) t.2).2.2 hpar.1 hin hlo hhi

theorem cellsOf_iff_maxBlock (q : Qty) (hq : q.dim = 1 ∨ q.dim = 2) (w d : Nat) (hd : d ≤ q.maxDepth w)
    (M : List Rng) (hc : Canon M) (ha : Aligned (2 ^ q.shiftFromMax w d) M) (j p : Nat) :
    (∃ c ∈ cellsOf q w d M, tileOf q w c = (j, p)) ↔ MaxBlock q.dim (q.maxDepth w) M j p := by
  refine maxBlock_iff_of_cover q.dim (q.maxDepth w) M (fun j p => ∃ c ∈ cellsOf q w d M, tileOf q w c = (j, p))
    ?_ (fun x hx => ?_) j p
  · rintro j p ⟨c, hcM, hcp⟩
    have h := (cellsOf_block q hq w d hd M hc ha c hcM).2
    rwa [hcp] at h
  · obtain ⟨c, hcM, h1, h2⟩ := (mem_map_iff _ _ x).1
      ((cellsOf_cover q hq w d hd M (fun r hr => Nat.le_of_lt (canon_nonempty hc r hr)) ha x).2 hx)
    rw [rangeOfCell_eq] at h1 h2
    exact ⟨_, _, ⟨c, hcM, rfl⟩, h1, h2⟩

theorem tileOf_parent (q : Qty) (w : Nat) (c : Cell) (h0 : 0 < c.1) (h1 : c.1 ≤ q.maxDepth w) :
    tileOf q w (c.1 - 1, c.2 >>> q.dim) = ((tileOf q w c).1 + 1, parentStart q.dim (tileOf q w c).1 (tileOf q w c).2) := by
  have hj : q.maxDepth w - (c.1 - 1) = q.maxDepth w - c.1 + 1 := by
    rw [← Nat.sub_add_comm h1]
    exact (Nat.add_sub_add_right _ 1 (c.1 - 1)).symm.trans (by rw [Nat.sub_add_cancel h0])
  unfold tileOf parentStart Qty.shiftFromMax
  rw [down_shl]
  exact Prod.ext hj (congrArg (fun k => (c.2 >>> q.dim) <<< (q.dim * k)) hj)

end Moc
