/-
  Space-time coverages as sets of (instant, position) pairs (`Model/ST.lean`): membership and the judge `validSTB`
  element by element, and what the fold theorems of C10 rest on.
-/
import MocVerif.Lemmas.SetOps
import MocVerif.Model.ST

namespace Moc

theorem memSTB_iff (t s : Nat) (m : STMoc) : memSTB t s m = true ↔ memST t s m := by
  simp only [memSTB, memST, List.any_eq_true, Bool.and_eq_true, decide_eq_true_eq]

theorem memST_nil (t s : Nat) : memST t s [] ↔ False := exists_mem_nil _

theorem memST_cons (t s : Nat) (e : List Rng × List Rng) (m : STMoc) :
    memST t s (e :: m) ↔ (mem t e.1 ∧ mem s e.2) ∨ memST t s m := exists_mem_cons _ e m

theorem memST_append (t s : Nat) (a b : STMoc) : memST t s (a ++ b) ↔ memST t s a ∨ memST t s b :=
  exists_mem_append _ a b

theorem validSTB_cons_iff (e : List Rng × List Rng) (m : STMoc) :
    validSTB (e :: m) = true ↔ Canon e.1 ∧ e.1 ≠ [] ∧ Canon e.2 ∧ e.2 ≠ [] ∧
      (∀ f ∈ m, lastEnd e.1 ≤ firstInstant f) ∧ validSTB m = true := by
  simp only [validSTB, Bool.and_eq_true, Bool.not_eq_true', List.isEmpty_eq_false_iff, List.all_eq_true,
    decide_eq_true_eq, canonB_iff, and_assoc]

/-- `tt` is read as a truth table at the two memberships. -/
theorem stPointOp_iff {tt : Nat} {f : Prop → Prop → Prop} (a b : STMoc) (t s : Nat)
    (h : ∀ x y : Bool, ((tt >>> ((if x then 2 else 0) + (if y then 1 else 0))) % 2 == 1) = true ↔ f (x = true) (y = true)) :
    stPointOp tt a b t s = true ↔ f (memST t s a) (memST t s b) := by
  rw [← memSTB_iff, ← memSTB_iff]
  exact h _ _

theorem foldl_union_spec {α : Type} (f : α → List Rng) : ∀ (es : List α) (acc : List Rng), Canon acc →
    (∀ e ∈ es, Canon (f e)) →
    Canon (es.foldl (fun acc e => union acc (f e)) acc) ∧
    ∀ p, mem p (es.foldl (fun acc e => union acc (f e)) acc) ↔ mem p acc ∨ ∃ e ∈ es, mem p (f e) := by
  intro es
  induction es with
  | nil => exact fun acc hc _ => ⟨hc, fun p => (or_iff_left (exists_mem_nil _).1).symm⟩
  | cons e t ih =>
    intro acc hc he
    have u := union_spec acc (f e) hc (he e List.mem_cons_self)
    obtain ⟨i1, i2⟩ := ih (union acc (f e)) u.1 (fun x hx => he x (List.mem_cons_of_mem _ hx))
    refine ⟨i1, fun p => ?_⟩
    rw [List.foldl_cons, i2 p, u.2 p, exists_mem_cons, or_assoc]

/-- Non-empty time ranges ordered by their STARTS (non-strictly: overlap is not excluded). -/
def FlatSorted (lo : Nat) : FlatST → Prop
  | [] => True
  | e :: t => lo ≤ e.1.1 ∧ e.1.1 < e.1.2 ∧ FlatSorted e.1.1 t

theorem sortedFrom_filter_map (p : Rng × List Rng → Bool) : ∀ (flat : FlatST) (lo : Nat), FlatSorted lo flat →
    SortedFrom lo ((flat.filter p).map (·.1)) := by
  intro flat
  induction flat with
  | nil => intro lo _; trivial
  | cons e t ih =>
    intro lo h
    obtain ⟨h1, h2, h3⟩ := h
    simp only [List.filter_cons]
    split
    · exact ⟨h1, h2, ih _ h3⟩
    · exact (ih _ h3).mono h1

end Moc
