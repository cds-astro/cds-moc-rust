/-
  C07 — the header scan gives back the cards the writer wrote; the values the reader extracts from them, for any
  MOC cards (`decodeHdr_table`, `decodeHdrST_table`) and for the cards of a range file and of an ST file.
-/
import MocVerif.Model.FitsRead
import MocVerif.Lemmas.Fits

namespace Moc.Fits
open Moc Moc.Codec

theorem endCard_take4 : endCard.take 4 = ['E', 'N', 'D', ' '] := by decide

theorem scanCards_cons (n : Nat) {c : List Char} (hc : c.length = 80) (rest : List Char) :
    scanCards (n + 1) (c ++ rest) = if c.take 4 = ['E', 'N', 'D', ' '] then [] else c :: scanCards n rest := by
  have e1 : (c ++ rest).take 80 = c := by rw [← hc, List.take_left]
  have e2 : (c ++ rest).drop 80 = rest := by rw [← hc, List.drop_left]
  simp only [scanCards, e1, e2]

theorem scanCards_pre {pre : List (List Char)} (h : CardsOk pre) (X : List Char) :
    ∀ n, pre.length < n → scanCards n (pre.flatten ++ (endCard ++ X)) = pre := by
  induction pre with
  | nil =>
    intro n hn
    match n, hn with
    | n + 1, _ => rw [List.flatten_nil, List.nil_append, scanCards_cons n endCard_length, if_pos endCard_take4]
  | cons c t ih =>
    intro n hn
    match n, hn with
    | n + 1, hn =>
      rw [List.flatten_cons, List.append_assoc, scanCards_cons n (h c List.mem_cons_self).1,
        if_neg (h c List.mem_cons_self).2,
        ih (fun x hx => h x (List.mem_cons_of_mem _ hx)) n (Nat.lt_of_succ_lt_succ hn)]

/-- `get_str_val_no_quote` on `write_keyword_record` with a quoted value. -/
theorem readStr_quoted (kw v : List Char) (hk : kw.length = 8) (hq : ∀ c ∈ v, c ≠ '\'')
    (hs : dropTrailingSpaces v = v) : readStr (cardFree kw (quoted v)) = some v := by
  unfold readStr cardFree pad quoted
  rw [List.append_assoc, List.cons_append, List.cons_append, drop_value _ _ hk, List.cons_append, List.append_assoc,
    List.singleton_append, dropSpaces_nonspace _ _ (by decide)]
  simp only []
  rw [List.takeWhile_append_of_pos (fun x hx => by simpa using hq x hx), List.takeWhile_cons_of_neg (by decide),
    List.append_nil, List.drop_left]
  simp only [List.head?_cons, ↓reduceIte, hs]

theorem readStr_tform (w : Nat) : readStr (cardFree ['T', 'F', 'O', 'R', 'M', '1', ' ', ' '] (quoted (tform w))) = some (tform w) := by
  have := tform_ind (P := fun v => (∀ c ∈ v, c ≠ '\'') ∧ dropTrailingSpaces v = v) w (by decide) (by decide) (by decide) (by decide)
  exact readStr_quoted _ _ rfl this.1 this.2

theorem scan_table (w nRows : Nat) (moc : List (List Char)) (hm : Cards80 moc) (hc : moc.length ≤ 27)
    (hne : NoEnd moc) (hw : w / 8 < 10 ^ 20) (hn : nRows < 10 ^ 20) :
    scanCards 36 (block (tableCardsOf w nRows moc)) = fixedCards w nRows ++ moc := by
  unfold block pad
  rw [tableCardsOf_eq, List.flatten_append, List.flatten_singleton, List.append_assoc]
  exact scanCards_pre (all_append (fixedCards_ok w nRows hw hn) fun c hc => ⟨hm c hc, hne c hc⟩) _ 36
    (by rw [List.length_append, fixedCards_length]; omega)

theorem findCard_append_right {kw : List Char} {a : List (List Char)} (b : List (List Char))
    (h : ∀ c ∈ a, c.take 8 ≠ kw) : findCard kw (a ++ b) = findCard kw b := by
  induction a with
  | nil => rfl
  | cons c t ih =>
    rw [List.cons_append, findCard, if_neg (h c List.mem_cons_self), ih fun x hx => h x (List.mem_cons_of_mem _ hx)]

/-- The keywords of `fixedCards` do not depend on the two counts. -/
def fixedKeys : List (List Char) := (fixedCards 0 0).map (List.take 8)

theorem fixedCards_keys (w nRows : Nat) : (fixedCards w nRows).map (List.take 8) = fixedKeys := by
  simp (config := { decide := true }) only [fixedKeys, fixedCards, List.map_cons, List.map_nil, cardFree_take8, cardFixed_take8]

theorem findCard_table (w nRows : Nat) (moc : List (List Char)) {kw : List Char} (h : kw ∉ fixedKeys) :
    findCard kw (fixedCards w nRows ++ moc) = findCard kw moc := by
  apply findCard_append_right
  intro c hc e
  exact h (by rw [← fixedCards_keys w nRows, ← e]; exact List.mem_map_of_mem hc)

theorem naxis_read (w nRows : Nat) (moc : List (List Char)) (hw : w / 8 < 10 ^ 20) (hn : nRows < 10 ^ 20) :
    (findCard ['N', 'A', 'X', 'I', 'S', '1', ' ', ' '] (fixedCards w nRows ++ moc)).bind readUint = some (w / 8) ∧
    (findCard ['N', 'A', 'X', 'I', 'S', '2', ' ', ' '] (fixedCards w nRows ++ moc)).bind readUint = some nRows := by
  constructor <;>
  simp (config := { decide := true }) only [fixedCards, List.cons_append, findCard, cardFixed_take8, ↓reduceIte,
    Option.bind_some, readUint_count, hw, hn]

theorem depthKw_notFixed (dim : List Char) : depthKw dim ∉ fixedKeys :=
  iteInduction (motive := (· ∉ fixedKeys)) (fun _ => by decide) fun _ =>
    iteInduction (motive := (· ∉ fixedKeys)) (fun _ => by decide) fun _ => by decide

/-- For any MOC cards: row width and row count come from the fixed part, the other four values are whatever the
    reader finds in the MOC cards. -/
theorem decodeHdr_table {w nRows : Nat} {moc : List (List Char)} (hm : MocCardsOk moc) (hw : w / 8 < 10 ^ 20)
    (hn : nRows < 10 ^ 20) {dim ord tf : List Char} {d : Nat}
    (hdim : (findCard ['M', 'O', 'C', 'D', 'I', 'M', ' ', ' '] moc).bind readStr = some dim)
    (hord : (findCard ['O', 'R', 'D', 'E', 'R', 'I', 'N', 'G'] moc).bind readStr = some ord)
    (hd : (findCard (depthKw dim) moc).bind readUint = some d)
    (htf : (findCard ['T', 'F', 'O', 'R', 'M', '1', ' ', ' '] moc).bind readStr = some tf) :
    decodeHdr (block (tableCardsOf w nRows moc)) =
      some { naxis1 := w / 8, naxis2 := nRows, dim := dim, ordering := ord, depth := d, tform := tf } := by
  unfold decodeHdr
  rw [scan_table w nRows moc hm.cards.cards80 hm.count hm.cards.noEnd hw hn]
  simp (config := { decide := true }) only [(naxis_read w nRows moc hw hn).1, (naxis_read w nRows moc hw hn).2,
    Option.bind_eq_bind, Option.bind_some, findCard_table w nRows moc, findCard_table w nRows moc (depthKw_notFixed _),
    hdim, hord, hd, htf]
  rfl

theorem decodeHdrST_table {w nRows : Nat} {moc : List (List Char)} (hm : MocCardsOk moc) (hw : w / 8 < 10 ^ 20)
    (hn : nRows < 10 ^ 20) {dim ord tf : List Char} {dt ds : Nat}
    (hdim : (findCard ['M', 'O', 'C', 'D', 'I', 'M', ' ', ' '] moc).bind readStr = some dim)
    (hord : (findCard ['O', 'R', 'D', 'E', 'R', 'I', 'N', 'G'] moc).bind readStr = some ord)
    (hdt : (findCard ['M', 'O', 'C', 'O', 'R', 'D', '_', 'T'] moc).bind readUint = some dt)
    (hds : (findCard ['M', 'O', 'C', 'O', 'R', 'D', '_', 'S'] moc).bind readUint = some ds)
    (htf : (findCard ['T', 'F', 'O', 'R', 'M', '1', ' ', ' '] moc).bind readStr = some tf) :
    decodeHdrST (block (tableCardsOf w nRows moc)) = some (w / 8, nRows, dim, ord, dt, ds, tf) := by
  unfold decodeHdrST
  rw [scan_table w nRows moc hm.cards.cards80 hm.count hm.cards.noEnd hw hn]
  simp (config := { decide := true }) only [(naxis_read w nRows moc hw hn).1, (naxis_read w nRows moc hw hn).2,
    Option.bind_eq_bind, Option.bind_some, findCard_table w nRows moc, hdim, hord, hdt, hds, htf]
  rfl

theorem decodeHdr_tableCards (q : Qty) (w d n : Nat) (hd : d ≤ 255) (hw : w / 8 < 10 ^ 20) (hn : n <<< 1 < 10 ^ 20) :
    decodeHdr (block (tableCards q w d n)) =
      some { naxis1 := w / 8, naxis2 := n <<< 1,
             dim := if q.name == "HPX" then ['S', 'P', 'A', 'C', 'E'] else if q.name == "TIME" then ['T', 'I', 'M', 'E']
               else ['F', 'R', 'E', 'Q', 'U', 'E', 'N', 'C', 'Y'],
             ordering := ['R', 'A', 'N', 'G', 'E'], depth := d, tform := tform w } := by
  refine decodeHdr_table (mocCards_ok q w d hd) hw hn ?_ ?_ ?_ ?_
  -- `MOCDIM` and `ORDERING` are among the three cards common to all quantities; the depth card and `TFORM1` are not
  · simp (config := { decide := true }) only [mocCards, List.cons_append, findCard, cardFree_take8, ↓reduceIte, Option.bind_some]
    have := dimName_ind (P := fun v => (∀ c ∈ v, c ≠ '\'') ∧ dropTrailingSpaces v = v) q (by decide) (by decide) (by decide)
    exact readStr_quoted _ _ rfl this.1 this.2
  · simp (config := { decide := true }) only [mocCards, List.cons_append, findCard, cardFree_take8, ↓reduceIte, Option.bind_some,
      readStr_quoted]
  all_goals
    by_cases h1 : (q.name == "HPX") = true
    · simp (config := { decide := true }) only [mocCards, depthKw, h1, List.cons_append, List.nil_append, findCard, cardFree_take8, ↓reduceIte,
        Option.bind_some, readStr_tform, readUint_depth, hd]
    · by_cases h2 : (q.name == "TIME") = true <;>
      simp (config := { decide := true }) only [mocCards, depthKw, h1, h2, List.cons_append, List.nil_append, findCard, cardFree_take8, ↓reduceIte,
        Option.bind_some, readStr_tform, readUint_depth, hd]

theorem decodeHdr_hpx (q : Qty) (w d n : Nat) (hq : (q.name == "HPX") = true) (hd : d ≤ 255)
    (hw : w / 8 < 10 ^ 20) (hn : n <<< 1 < 10 ^ 20) :
    decodeHdr (block (tableCards q w d n)) =
      some { naxis1 := w / 8, naxis2 := n <<< 1, dim := ['S', 'P', 'A', 'C', 'E'], ordering := ['R', 'A', 'N', 'G', 'E'],
             depth := d, tform := tform w } := by
  have := decodeHdr_tableCards q w d n hd hw hn
  rwa [if_pos hq] at this

theorem decodeHdr_time (q : Qty) (w d n : Nat) (hq1 : (q.name == "HPX") = false) (hq2 : (q.name == "TIME") = true) (hd : d ≤ 255)
    (hw : w / 8 < 10 ^ 20) (hn : n <<< 1 < 10 ^ 20) :
    decodeHdr (block (tableCards q w d n)) =
      some { naxis1 := w / 8, naxis2 := n <<< 1, dim := ['T', 'I', 'M', 'E'], ordering := ['R', 'A', 'N', 'G', 'E'],
             depth := d, tform := tform w } := by
  have := decodeHdr_tableCards q w d n hd hw hn
  rwa [if_neg (by rw [hq1]; decide), if_pos hq2] at this

theorem decodeHdr_freq (q : Qty) (w d n : Nat) (hq1 : (q.name == "HPX") = false) (hq2 : (q.name == "TIME") = false) (hd : d ≤ 255)
    (hw : w / 8 < 10 ^ 20) (hn : n <<< 1 < 10 ^ 20) :
    decodeHdr (block (tableCards q w d n)) =
      some { naxis1 := w / 8, naxis2 := n <<< 1, dim := ['F', 'R', 'E', 'Q', 'U', 'E', 'N', 'C', 'Y'], ordering := ['R', 'A', 'N', 'G', 'E'],
             depth := d, tform := tform w } := by
  have := decodeHdr_tableCards q w d n hd hw hn
  rwa [if_neg (by rw [hq1]; decide), if_neg (by rw [hq2]; decide)] at this

theorem rangeFile_parts (q : Qty) (w d : Nat) (rs : List Rng) (hd : d ≤ 255) (hw : w / 8 < 10 ^ 20)
    (hn : rs.length <<< 1 < 10 ^ 20) :
    (((rangeFile q w d rs).drop 2880).take 2880).map Char.ofNat = block (tableCards q w d rs.length) ∧
    ((rangeFile q w d rs).drop 5760).take ((w / 8) * (rs.length <<< 1)) = dataUnit w rs := by
  unfold rangeFile tableCards dataUnit
  rw [← encodeWords_length_shift] at hn ⊢
  exact (fileOf_parts (mocCards_ok q w d hd) hw hn).2

/-- The header-driven reader returns the ranges of the positional `readStructure` when the header's two counts
    are those read positionally. -/
theorem decodeRangeFile_of {file : List Nat} {h : Hdr} {rs : List Rng}
    (hh : decodeHdr (((file.drop 2880).take 2880).map Char.ofNat) = some h)
    (hs : readStructure file = some (h.naxis1, h.naxis2, rs)) : decodeRangeFile file = some (h, rs) := by
  unfold decodeRangeFile
  rw [hh, ← readStructure_some hs]
  rfl

theorem decodeHdrST_written (w d1 d2 n : Nat) (h1 : d1 ≤ 255) (h2 : d2 ≤ 255) (hw : w / 8 < 10 ^ 20) (hn : n < 10 ^ 20) :
    decodeHdrST (block (tableCardsOf w n (stCards w d1 d2))) =
      some (w / 8, n, ['T', 'I', 'M', 'E', '.', 'S', 'P', 'A', 'C', 'E'], ['R', 'A', 'N', 'G', 'E'], d1, d2, tform w) := by
  apply decodeHdrST_table (stCards_ok w d1 d2 h1 h2) hw hn <;>
  simp (config := { decide := true }) only [stCards, ↓reduceIte, findCard, cardFree_take8, Option.bind_some, readStr_quoted,
    readUint_depth, h1, h2, readStr_tform]

end Moc.Fits
