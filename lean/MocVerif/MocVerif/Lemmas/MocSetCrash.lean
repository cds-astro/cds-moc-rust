/-
  The effect-level view of an interrupted `append` (`Model/MocSetCrash.lean`, C16): each visible effect keeps the
  reader's view consistent, under its guard.

  This `View` model (slot `i` of `View.index` = end of MOC `i`) and the word-and-byte model of an interrupted
  command (`fileAppendPrefix`, `chgScanK` of `Model/MocSetFile.lean`; there slot 0 of `File.index` is the header
  size) are two models: no map between them is proved.
-/
import MocVerif.Model.MocSetCrash

namespace Moc

theorem nthD_append_lt (l : List Nat) (x i : Nat) (h : i < l.length) : nthD (l ++ [x]) i = nthD l i := by
  fun_induction nthD l i with
  | case1 => cases h
  | case2 => rfl
  | case3 _ t i ih => exact ih (Nat.lt_of_succ_lt_succ h)

theorem consistent_data {v : View} (h : Consistent v) (n : Nat) : Consistent (applyEff v (.dataVisible n)) :=
  ⟨h.1, fun i hi => Nat.le_trans (h.2 i hi) (Nat.le_add_right ..)⟩

/-- An index word stored beyond the listed entries is not looked at. -/
theorem consistent_index {v : View} (h : Consistent v) (e : Nat) : Consistent (applyEff v (.indexStore e)) :=
  ⟨Nat.le_trans h.1 (by simp [applyEff]), fun i hi => by
    show nthD (v.index ++ [e]) i ≤ _
    rw [nthD_append_lt _ _ _ (Nat.lt_of_lt_of_le hi h.1)]; exact h.2 i hi⟩

/-- The guards: the index word of the MOC newly listed is there (`hi`) and its bytes are in the file (`hd`). -/
theorem consistent_meta {v : View} (h : Consistent v) (hi : v.listed < v.index.length)
    (hd : nthD v.index v.listed ≤ v.fileLen) : Consistent (applyEff v .metaStore) :=
  ⟨hi, fun i hlt => by
    rcases Nat.lt_succ_iff_lt_or_eq.1 hlt with h' | h'
    · exact h.2 i h'
    · rw [h']; exact hd⟩

theorem applyStatus_getElem? (w : Statuses) (e : Nat × Nat) (i : Nat) :
    (applyStatus w e)[i]? = w[i]? ∨ (applyStatus w e)[i]? = some e.2 := by
  unfold applyStatus
  rw [List.getElem?_set]
  by_cases hi : e.1 = i
  · rw [if_pos hi]
    by_cases hlt : e.1 < w.length
    · rw [if_pos hlt]; exact .inr rfl
    · rw [if_neg hlt, ← hi, List.getElem?_eq_none (Nat.le_of_not_lt hlt)]; exact .inl rfl
  · rw [if_neg hi]; exact .inl rfl

end Moc
