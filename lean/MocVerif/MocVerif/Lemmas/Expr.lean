/-
  Operator trees (`Model/Expr.lean`): the eager evaluation of a tree over valid leaves is valid (`evalE_valid`); the
  borrowed sources over which the eager `minus` runs the lazy one announce consistent hints.
-/
import MocVerif.Lemmas.ValidOps
import MocVerif.Lemmas.LazyOps
import MocVerif.Model.Expr

namespace Moc

theorem borrowedSrc_hintOk (d : Nat) (l : List Rng) (hc : Canon l) : (borrowedSrc d l).HintOk := by
  refine ⟨?_, Nat.le_refl _, ?_⟩
  · intro r hr
    exact ⟨canon_nonempty hc r (List.mem_of_getLast? hr), ends_le_getLast? l 0 hc r hr⟩
  · intro n hn; simp [borrowedSrc] at hn ⊢; omega

theorem borrowedSrc_lastExact (d : Nat) (l : List Rng) : (borrowedSrc d l).LastExact := by
  intro q hq; exact ⟨q, hq, rfl⟩

/-- Stands here and not with `LeavesOk` / `DepthsOk` in `Model/Expr`: only `C04.lazy_last_exact` asks for it. -/
def Expr.LeavesLastExact : Expr → Prop
  | .leaf s => s.LastExact
  | .and a b | .or a b | .xor a b | .minus a b => a.LeavesLastExact ∧ b.LeavesLastExact
  | .not a => a.LeavesLastExact
  | .degrade _ a => a.LeavesLastExact

theorem evalE_valid (q : Qty) (w : Nat) (h0 : 0 < q.nCellsMax w) (e : Expr)
    (hl : e.LeavesOk q w) (hd : e.DepthsOk q w) :
    Valid q w (evalE q w e).1 (evalE q w e).2 ∧ (evalE q w e).1 ≤ q.maxDepth w := by
  have bin {dl dr : Nat} {a b o : List Rng} (f : Prop → Prop → Prop) (hf : ¬ f False False)
      (ha : Valid q w dl a ∧ dl ≤ q.maxDepth w) (hb : Valid q w dr b ∧ dr ≤ q.maxDepth w)
      (sp : Canon a → Canon b → Canon o ∧ ∀ x, mem x o ↔ f (mem x a) (mem x b)) :
      Valid q w (max dl dr) o ∧ max dl dr ≤ q.maxDepth w :=
    have sp := sp ha.1.1 hb.1.1
    ⟨valid_binary q w _ _ _ _ _ f hf ha.1 hb.1 sp.1 sp.2, Nat.max_le.2 ⟨ha.2, hb.2⟩⟩
  induction e with
  | leaf s => exact ⟨hl.1, hd⟩
  | and a b iha ihb =>
    exact bin (fun p1 p2 => p1 ∧ p2) (by simp) (iha hl.1 hd.1) (ihb hl.2 hd.2) (intersection_spec _ _)
  | or a b iha ihb =>
    exact bin (fun p1 p2 => p1 ∨ p2) (by simp) (iha hl.1 hd.1) (ihb hl.2 hd.2) (union_spec _ _)
  | xor a b iha ihb =>
    exact bin (fun p1 p2 => (p1 ↔ ¬ p2)) (by simp) (iha hl.1 hd.1) (ihb hl.2 hd.2) (xorLoop_spec _ _ 0)
  | minus a b iha ihb =>
    refine bin (fun p1 p2 => p1 ∧ ¬ p2) (by simp) (iha hl.1 hd.1) (ihb hl.2 hd.2) fun ca cb => ?_
    show Canon (minusItems _ _) ∧ ∀ x, mem x (minusItems _ _) ↔ _
    rw [minusItems_eq _ _ (borrowedSrc_hintOk _ _ ca) (borrowedSrc_hintOk _ _ cb) ca cb]
    exact minusLoop_spec _ _ 0 0 ca cb
  | not a iha =>
    have ha := iha hl hd
    exact ⟨valid_complement q w _ _ h0 ha.1, ha.2⟩
  | degrade nd a iha =>
    have ha := iha hl hd.2
    refine ⟨?_, Nat.le_trans (Nat.min_le_right _ _) hd.1⟩
    show Valid q w (min (evalE q w a).1 nd) (degradedShift _ (evalE q w a).2)
    rcases Nat.le_total nd (evalE q w a).1 with h | h
    · rw [Nat.min_eq_right h]; exact valid_degraded q w _ nd _ ha.1
    · rw [Nat.min_eq_left h, degraded_deeper_eq q w _ nd _ ha.1 h]; exact ha.1

end Moc
